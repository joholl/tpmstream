import TpmProofs.BE
import TpmProofs.DecodeOk
import TpmProofs.Trace
import TpmProofs.PumpFacts
import TpmProofs.MsgOk
import TpmProofs.SpecPaths
import TpmProofs.MsgPump
import TpmProofs.Trunc
import TpmProofs.TruncPump
import TpmProofs.DecodeSound
import TpmProofs.MsgSound
import TpmProofs.NoCrash
import TpmProofs.Modes
import TpmProofs.Warn
import TpmProofs.WarnAcct
import TpmProofs.ShapePk
import TpmProofs.Props.C08W
import TpmProofs.MsgNoCrash
import TpmProofs.Props.AcceptIff
import TpmProofs.Props.MsgWF
import TpmProofs.Props.C01
import TpmProofs.Props.C02
import TpmProofs.Props.C04
import TpmProofs.Props.C05
import TpmProofs.Props.C06
import TpmProofs.Props.C07
import TpmProofs.Props.C08
import TpmProofs.Props.C10
import TpmProofs.Props.C13
import TpmProofs.Props.C16
import TpmProofs.Props.C17
import TpmProofs.Props.C18
import TpmProofs.Props.C20
import TpmProofs.Props.C03
import TpmProofs.Props.C09
import TpmProofs.Props.C11
import TpmProofs.Props.C11E
import TpmProofs.Props.C05S
import TpmProofs.Props.C09E
import TpmProofs.Props.C14E
import TpmProofs.Props.C14W
import TpmProofs.Props.C14R
import TpmProofs.Props.C14S
import TpmProofs.Props.C02S
import TpmProofs.Props.C12
import TpmProofs.Props.C14
import TpmProofs.Props.C15
import TpmProofs.Props.C19
import TpmProofs.PosInp
import TpmProofs.WarnNC
import TpmProofs.Props.C08N
import TpmProofs.ValueWarn
import TpmProofs.Props.C08V
import TpmProofs.Lenient
import TpmProofs.Props.C08L
import TpmProofs.Reroot
import TpmProofs.Props.C05R
import TpmProofs.Shift
import TpmProofs.Props.C09S
import TpmProofs.Props.C03D
import TpmProofs.EndsOk
import TpmProofs.Props.C14B
