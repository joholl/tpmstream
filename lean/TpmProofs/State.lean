import TpmModel.Spec
import TpmModel.Message
/-!
# What the developments share about walker states and results

Regions charged (`bump`), with room (`Room`), with ids behind the position (`Fresh`), reduced to their ids and limits in order
(`sig`: what charging leaves alone); specification events stamped from an offset (`stamp`) and the exact state after a
conforming decode (`post`); whether a result is a success (`isOkR`); the region opened last is the one `findSC` / `removeSC`
find (`findSC_last`, `removeSC_last`).

The monad laws of `R.bind`; the two `except`s of `marshal.py`: in strict mode neither catches (`ownCatch_true`,
`msgCatch_true`), and what either makes of a guarded result in general (`Caught`).

The input-reading steps as equations, for every development: `consume_eq`, `take_ok_inv`, and `bpGo_cases`, the one case analysis
of the charging loop (`bpGo_ok_inv`: what it leaves when it succeeds).
-/

def isOkR {α : Type} : R α → Bool
  | .ok _ => true
  | .error _ => false

theorem R.bind_pure {α : Type} (r : R α) : (r.bind fun a s => .ok (a, s)) = r := by
  cases r with
  | ok as => rfl
  | error e => rfl

theorem R.bind_assoc {α β γ : Type} (r : R α) (f : α → St → R β) (g : β → St → R γ) :
    (r.bind f).bind g = r.bind fun a s => (f a s).bind g := by
  cases r <;> rfl

theorem ownCatch_true (id : Nat) (r : R Val) (g : Val → St → R Val) : ownCatch true id r g = r.bind g := by
  unfold ownCatch
  cases r with
  | error e => obtain ⟨e, s⟩ := e; cases e <;> rfl
  | ok v => rfl

theorem msgCatch_true (id1 id2 : Nat) (name : String) (vals : List (String × Val)) (r : R Val) (g : Val → St → R Val) :
    msgCatch true id1 id2 name vals r g = r.bind g := by
  unfold msgCatch
  cases r with
  | error e => obtain ⟨e, s⟩ := e; cases e <;> rfl
  | ok v => rfl

/-- what either `except` makes of the result `r` of the guarded step: it goes on after a success, passes an error on, or — in
warn mode only — turns an overrun into a warning and returns -/
inductive Caught (abort : Bool) (r : R Val) (k : Val → St → R Val) : R Val → Prop
  | ok {v : Val} {t : St} : r = .ok (v, t) → Caught abort r k (k v t)
  | pass {e : Err × St} : r = .error e → Caught abort r k (.error e)
  | warn {cid : Nat} {cp : Path} {m a : Nat} {v : Path} {b : Nat} {t : St} (ret : Val) : abort = false →
      r = .error (.exceeded cid cp m a v b, t) → Caught abort r k (.ok (ret, emitW (.exceeded cid cp m a v b) t))

theorem ownCatch_caught (abort : Bool) (id : Nat) (r : R Val) (k : Val → St → R Val) : Caught abort r k (ownCatch abort id r k) := by
  unfold ownCatch
  split
  · split
    · exact .pass rfl
    · rename_i h; exact .warn _ (by simp at h; exact h.1) rfl
  · exact .pass rfl
  · exact .ok rfl

theorem msgCatch_caught (abort : Bool) (id1 id2 : Nat) (name : String) (vals : List (String × Val)) (r : R Val)
    (k : Val → St → R Val) : Caught abort r k (msgCatch abort id1 id2 name vals r k) := by
  unfold msgCatch
  split
  · split
    · exact .pass rfl
    · rename_i h; exact .warn _ (by simp at h; exact h.1) rfl
  · exact .pass rfl
  · exact .ok rfl

theorem Caught.strict {r q : R Val} {k : Val → St → R Val} (h : Caught true r k q) : q = r.bind k := by
  cases h with
  | ok h => rw [h]; rfl
  | pass h => rw [h]; rfl
  | warn _ h => cases h

def bump (scs : List SC) (n : Nat) : List SC := scs.map (·.bump n)

/-- every enclosing region has room for `n` more bytes -/
def Room (scs : List SC) (n : Nat) : Prop := ∀ c ∈ scs, ∀ m, c.max = some m → c.already + n ≤ m

/-- constraint ids (creation offsets) are not ahead of the current position -/
def Fresh (scs : List SC) (pos : Nat) : Prop := ∀ c ∈ scs, c.id ≤ pos

def stamp (pos : Nat) (evs : List SEv) : List (Nat × Event) := evs.map fun e => (pos + e.1, .marshal e.2)

/-- state after decoding an encoding of length `n` with events `evs` from position `pos` -/
def post (rest : List Byte) (pos : Nat) (out : List (Nat × Event)) (evs : List SEv) (scs : List SC) (n : Nat) : St :=
  ⟨rest, pos + n, out ++ stamp pos evs, bump scs n⟩

@[simp] theorem bump_zero (scs : List SC) : bump scs 0 = scs := by
  simp [bump, SC.bump]
theorem bump_bump (scs : List SC) (a b : Nat) : bump (bump scs a) b = bump scs (a + b) := by
  simp [bump, SC.bump, List.map_map, Function.comp_def, Nat.add_assoc]
theorem bump_cons (c : SC) (scs : List SC) (n : Nat) : bump (c :: scs) n = c.bump n :: bump scs n := rfl
@[simp] theorem bump_nil (n : Nat) : bump [] n = [] := rfl
theorem bump_append (scs : List SC) (c : SC) (k : Nat) : bump (scs ++ [c]) k = bump scs k ++ [c.bump k] := by
  simp [bump]

theorem room_bump {scs : List SC} {a b : Nat} (h : Room scs (a + b)) : Room (bump scs a) b := by
  intro c hc m hm
  simp only [bump, List.mem_map] at hc
  obtain ⟨c0, hc0, rfl⟩ := hc
  have := h c0 hc0 m (by simpa [SC.bump] using hm)
  simp only [SC.bump]; omega
theorem room_mono {scs : List SC} {a b : Nat} (h : Room scs b) (hab : a ≤ b) : Room scs a := by
  intro c hc m hm; have := h c hc m hm; omega
theorem room_append {scs : List SC} {id : Nat} {cpath : Path} {n : Nat} (h : Room scs n) :
    Room (scs ++ [⟨id, cpath, 0, some n⟩]) n := by
  intro c hc m hm
  simp only [List.mem_append, List.mem_singleton] at hc
  rcases hc with hc | rfl
  · exact h c hc m hm
  · simp at hm ⊢; omega

theorem fresh_bump {scs : List SC} {pos k : Nat} (h : Fresh scs pos) : Fresh (bump scs k) (pos + k) := by
  intro c hc
  simp only [bump, List.mem_map] at hc
  obtain ⟨c0, hc0, rfl⟩ := hc
  have := h c0 hc0
  simp only [SC.bump]; omega
theorem fresh_mono {scs : List SC} {p q : Nat} (h : Fresh scs p) (hpq : p ≤ q) : Fresh scs q := by
  intro c hc; have := h c hc; omega
theorem fresh_append {scs : List SC} {pos : Nat} {c : SC} (h : Fresh scs pos) (hc : c.id ≤ pos) :
    Fresh (scs ++ [c]) pos := by
  intro d hd
  simp only [List.mem_append, List.mem_singleton] at hd
  rcases hd with hd | rfl
  · exact h d hd
  · exact hc

@[simp] theorem stamp_nil (pos : Nat) : stamp pos [] = [] := rfl
theorem stamp_append (pos : Nat) (a b : List SEv) : stamp pos (a ++ b) = stamp pos a ++ stamp pos b := by
  simp [stamp]
theorem stamp_shift (pos k : Nat) (evs : List SEv) : stamp pos (shift k evs) = stamp (pos + k) evs := by
  simp [stamp, shift, List.map_map, Function.comp_def]
  intro a b _; omega
theorem stamp_cons (pos : Nat) (e : SEv) (evs : List SEv) :
    stamp pos (e :: evs) = (pos + e.1, .marshal e.2) :: stamp pos evs := rfl

def sig (scs : List SC) : List (Nat × Option Nat) := scs.map fun c => (c.id, c.max)

theorem sig_bump (scs : List SC) (n : Nat) : sig (bump scs n) = sig scs := by
  simp [sig, bump, SC.bump, List.map_map, Function.comp_def]

theorem sig_append (a b : List SC) : sig (a ++ b) = sig a ++ sig b := by simp [sig]

theorem findSC_last (id : Nat) (scs : List SC) (c : SC) (hid : c.id = id) (h : ∀ d ∈ scs, d.id ≠ id) :
    findSC id (scs ++ [c]) = some c := by
  induction scs with
  | nil => simp [findSC, hid]
  | cons d rest ih =>
    have hd : d.id ≠ id := h d (by simp)
    have := ih (fun e he => h e (by simp [he]))
    simp only [findSC, List.cons_append, List.find?_cons, hd, decide_false] at this ⊢
    exact this

theorem removeSC_last (id : Nat) (scs : List SC) (c : SC) (hid : c.id = id) (h : ∀ d ∈ scs, d.id ≠ id) :
    removeSC id (scs ++ [c]) = scs := by
  induction scs with
  | nil => simp [removeSC, hid]
  | cons d rest ih =>
    have hd : d.id ≠ id := h d (by simp)
    have := ih (fun e he => h e (by simp [he]))
    simp only [removeSC, List.cons_append, List.filter_cons, hd, decide_false, Bool.not_false, if_true] at this ⊢
    rw [this]

theorem consume_eq (n : Nat) (s : St) : consume n s =
    if s.inp.length < n then .error (.depleted, { s with inp := [], pos := s.pos + s.inp.length })
    else .ok ((), { s with inp := s.inp.drop n, pos := s.pos + n }) := by
  unfold consume take
  split <;> rfl

/-- `bytes_parsed`: either every open region is charged, or the first region `c` the field would cross ends: what is left
of `c` is skipped, and the regions around `c` are charged that much only.  Which of the two does not depend on the state. -/
theorem bpGo_cases (path : Path) (size : Nat) : ∀ (todo done : List SC),
    (∀ s, bpGo path size done todo s = .ok ((), { s with scs := done ++ bump todo size })) ∨
    ∃ pre c post, todo = pre ++ c :: post ∧ c.over size = true ∧ ∀ s, bpGo path size done todo s =
      (consume (c.max.getD 0 - c.already) { s with scs := (done ++ bump pre size).map fun d =>
        { d with already := d.already - (size - (c.max.getD 0 - c.already)) } }).bind fun _ s' =>
      .error (.exceeded c.id c.path (c.max.getD 0) c.already path (c.already + size - c.max.getD 0), s') := by
  intro todo
  induction todo with
  | nil => intro done; exact Or.inl fun s => by simp [bpGo]
  | cons c rest ih =>
    intro done
    by_cases hov : c.over size = true
    · exact Or.inr ⟨[], c, rest, rfl, hov, fun s => by simp [bpGo, hov]⟩
    · rcases ih (done ++ [c.bump size]) with h | ⟨pre, c', post, rfl, hov', h⟩
      · exact Or.inl fun s => by rw [bpGo, if_neg hov, h]; simp [bump_cons]
      · exact Or.inr ⟨c :: pre, c', post, rfl, hov', fun s => by rw [bpGo, if_neg hov, h]; simp [bump_cons]⟩

theorem bpGo_ok_inv {path : Path} {size : Nat} {todo done : List SC} {s s' : St} (h : bpGo path size done todo s = .ok ((), s')) :
    s' = { s with scs := done ++ bump todo size } := by
  rcases bpGo_cases path size todo done with e | ⟨_, _, _, _, _, e⟩ <;> rw [e] at h
  · cases h; rfl
  · rw [consume_eq] at h
    split at h <;> cases h

theorem take_ok_inv {n : Nat} {s s' : St} {bs : List Byte} (h : take n s = .ok (bs, s')) :
    bs.length = n ∧ s.inp = bs ++ s'.inp ∧ s' = { s with inp := s'.inp, pos := s.pos + n } := by
  unfold take at h
  split at h
  · simp at h
  · rename_i hn
    simp only [Except.ok.injEq, Prod.mk.injEq] at h
    obtain ⟨rfl, rfl⟩ := h
    exact ⟨by simp; omega, by simp, rfl⟩
