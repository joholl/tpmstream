import TpmProofs.ShapeMsg
import TpmProofs.ValueWarn
/-!
# `shapeOk pk` = the structure of the layout (`shapeOk fun _ => true`) + `pk` of every primitive it mentions (`Ty.pk`)

So a table is swept once for its structure and once for a fact about its primitives, whatever `pk` a caller needs.
-/

variable {k k' : Prim → Bool}

mutual
theorem Ty.shapeOk_of_pk (hk : ∀ p, k p = true → k' p = true) :
    (t : Ty) → t.shapeOk (fun _ => true) = true → t.pk k = true → t.shapeOk k' = true
  | .prim p, _, h => hk p h
  | .struct _ _ fs, hs, h => by
    simp only [Ty.shapeOk, Ty.pk, Bool.and_eq_true] at hs h ⊢
    exact ⟨Fields.shapeOk_of_pk hk fs hs.1 h, hs.2⟩
  | .tpm2bBytes _ _ szP _ elem, hs, h => by
    simp only [Ty.shapeOk, Ty.pk, Bool.and_eq_true, Bool.true_and] at hs h ⊢
    exact ⟨⟨hk _ h.1, hk _ h.2⟩, hs⟩
  | .tpm2b _ _ szP _ body, hs, h => by
    simp only [Ty.shapeOk, Ty.pk, Bool.and_eq_true, Bool.true_and] at hs h ⊢
    exact ⟨⟨hk _ h.1, hs.1⟩, Ty.shapeOk_of_pk hk body hs.2 h.2⟩
  | .union _ arms, hs, h => by
    simp only [Ty.shapeOk, Ty.pk] at hs h ⊢
    exact Arms.shapeOk_of_pk hk arms hs h
  | .bad _, _, _ => rfl
theorem Fields.shapeOk_of_pk (hk : ∀ p, k p = true → k' p = true) :
    (fs : Fields) → fs.shapeOk (fun _ => true) = true → fs.pk k = true → fs.shapeOk k' = true
  | .nil, _, _ => rfl
  | .cons _ _ t rest, hs, h => by
    simp only [Fields.shapeOk, Fields.pk, Bool.and_eq_true] at hs h ⊢
    exact ⟨⟨Ty.shapeOk_of_pk hk t hs.1.1 h.1, hs.1.2⟩, Fields.shapeOk_of_pk hk rest hs.2 h.2⟩
theorem Arms.shapeOk_of_pk (hk : ∀ p, k p = true → k' p = true) :
    (arms : Arms) → arms.shapeOk (fun _ => true) = true → arms.pk k = true → arms.shapeOk k' = true
  | .nil, _, _ => rfl
  | .consNone _ _ rest, hs, h => by
    simp only [Arms.shapeOk, Arms.pk] at hs h ⊢
    exact Arms.shapeOk_of_pk hk rest hs h
  | .cons _ _ t rest, hs, h => by
    simp only [Arms.shapeOk, Arms.pk, Bool.and_eq_true] at hs h ⊢
    exact ⟨Ty.shapeOk_of_pk hk t hs.1 h.1, Arms.shapeOk_of_pk hk rest hs.2 h.2⟩
  | .consBytes _ _ elem _ rest, hs, h => by
    simp only [Arms.shapeOk, Arms.pk, Bool.and_eq_true, Bool.true_and] at hs h ⊢
    exact ⟨hk _ h.1, Arms.shapeOk_of_pk hk rest hs h.2⟩
end

theorem MsgTables.shapeOk_of_pk (hk : ∀ p, k p = true → k' p = true) (tb : MsgTables)
    (hs : tb.shapeOk (fun _ => true) = true) (h : tb.pk k = true) : tb.shapeOk k' = true := by
  simp only [MsgTables.shapeOk, MsgTables.pk, Bool.and_eq_true, Bool.true_and, List.all_eq_true, List.mem_append,
    decide_eq_true_eq] at hs h ⊢
  obtain ⟨⟨⟨⟨⟨⟨⟨⟨⟨⟨⟨⟨⟨⟨h1, h2⟩, h3⟩, h4⟩, hac⟩, h5⟩, h6⟩, h7⟩, h8⟩, har⟩, he⟩, hch⟩, hcp⟩, hrh⟩, hrp⟩ := h
  obtain ⟨⟨⟨⟨sac, nac⟩, sar⟩, nar⟩, sa⟩ := hs
  refine ⟨⟨⟨⟨⟨⟨⟨⟨⟨⟨⟨⟨hk _ h1, hk _ h2⟩, hk _ h3⟩, hk _ h4⟩, hk _ h5⟩, hk _ h6⟩, hk _ h7⟩, hk _ h8⟩,
    Ty.shapeOk_of_pk hk _ sac hac⟩, nac⟩, Ty.shapeOk_of_pk hk _ sar har⟩, nar⟩, fun kt hkt => ?_⟩
  have hp : kt.2.pk k = true := by
    rcases hkt with ((hm | hm) | hm) | hm
    · exact hch kt hm
    · exact hcp kt hm
    · exact hrh kt hm
    · exact hrp kt hm
  have := sa kt hkt
  simp only [Ty.areaOk, Bool.and_eq_true] at this ⊢
  refine ⟨Ty.shapeOk_of_pk hk _ this.1 hp, ?_⟩
  split
  · rename_i name fs hv
    have h2 := this.2
    rw [hv] at h2
    simp only [Bool.and_eq_true] at h2 ⊢
    exact ⟨Fields.shapeOk_of_pk hk fs h2.1 (encVariant_pk he hp hv), h2.2⟩
  · rfl
