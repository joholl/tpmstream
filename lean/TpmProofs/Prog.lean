import TpmProofs.State
/-!
# The message walkers as programs

`process_command` and `process_response` are straight-line code over a dozen kinds of step.  `Prog` is that code as
data — `cmdProg`, `rspProg` — and `Prog.run` its interpreter; `decodeCommand_eq_run` / `decodeResponse_eq_run` say that
running the program is the walker.  A property that is closed under `bind` and the message's `except` and holds of every
kind of step then holds of both walkers by ONE structural induction: `Prog.run_inv` for properties of a single run,
`Prog.run_rel` for relations between two runs (the two modes, an input and its prefix, two roots, two tables, …).

The programs mention neither the mode, the tables, the path nor the region ids: all of these are in `Cfg`, so that two runs
of the same program under two configurations can be compared.
-/

/-- what a message program is run with: the regions are `own` (`commandSize` / `responseSize`) and `own + 1` -/
structure Cfg where
  abort : Bool
  tb : MsgTables
  path : Path
  own : Nat
  name : String

inductive HField where
  | tagCmd | cmdSize | cc | authSize | tagRsp | rspSize | rc | paramSize

def HField.prim (tb : MsgTables) : HField → Prim
  | .tagCmd => tb.tagCmd | .cmdSize => tb.cmdSize | .cc => tb.cc | .authSize => tb.authSize
  | .tagRsp => tb.tagRsp | .rspSize => tb.rspSize | .rc => tb.rc | .paramSize => tb.paramSize

def HField.name : HField → String
  | .tagCmd => "tag" | .cmdSize => "commandSize" | .cc => "commandCode" | .authSize => "authSize"
  | .tagRsp => "tag" | .rspSize => "responseSize" | .rc => "responseCode" | .paramSize => "parameterSize"

inductive Layouts where
  | cmdHandles | cmdParams | rspHandles | rspParams

def Layouts.get (tb : MsgTables) : Layouts → List (Int × Ty)
  | .cmdHandles => tb.cmdHandles | .cmdParams => tb.cmdParams
  | .rspHandles => tb.rspHandles | .rspParams => tb.rspParams

/-- the error for a command code without layouts (`none`: no command code at all) -/
def Cfg.noLayout (c : Cfg) (key : Option Int) : Err :=
  match key with
  | some k => .value (c.path ++ [⟨"commandCode", none⟩]) c.tb.cc.name k
  | none => .valueNone (c.path ++ [⟨"commandCode", none⟩]) c.tb.cc.name

def Cfg.at (c : Cfg) (n : String) : Path := c.path ++ [⟨n, none⟩]

inductive Test where
  | sessions (tag : Val)
  | failed (rc : Val)
  | lit (b : Bool)
  | not (t : Test)

def Test.eval (tb : MsgTables) : Test → Bool
  | .sessions tag => vInt tag == some tb.sessionsTag
  | .failed rc => vInt rc != some tb.rcSuccess
  | .lit b => b
  | .not t => !(t.eval tb)

/-- a step that looks without touching: it returns in the state it found, or ends with an internal error there -/
inductive Check : Type → Type where
  | crash (cls site : String) : Check Val
  /-- the value of a size field as a limit: an integer, not negative -/
  | size (v : Val) (what : String) : Check Nat
  /-- `is_parameter_encryption` -/
  | flag (rsp : Bool) (area : Val) : Check Bool
  /-- `size_constraints.assert_done()` of a response -/
  | closed : Check Unit

/-- what the check finds, given whether no region is left open -/
def Check.verdict (tb : MsgTables) : {α : Type} → Check α → Bool → Except (String × String) α
  | _, .crash cls site, _ => .error (cls, site)
  | _, .size v what, _ =>
    match vInt v with
    | none => .error ("TypeError", what)
    | some n => if n < 0 then .error ("AssertionError", "set_constraint: size_max < 0") else .ok n.toNat
  | _, .flag rsp ar, _ =>
    match (if rsp then areaFlag tb.authRsp "encrypt" ar else areaFlag tb.authCmd "decrypt" ar) with
    | .error cls => .error (cls, "is_parameter_encryption")
    | .ok b => .ok b
  | _, .closed, e => if e then .ok () else .error ("AssertionError", "size_constraints.assert_done()")

def Check.run (tb : MsgTables) {α : Type} (q : Check α) (s : St) : R α :=
  match q.verdict tb s.scs.isEmpty with
  | .ok a => .ok (a, s)
  | .error (cls, site) => _root_.crash cls site s

/-- a step of a message walker that reads, emits or moves a region -/
inductive Leaf : Type → Type where
  /-- the message's own region (no limit yet) replaces the list; the root event -/
  | start : Leaf Unit
  | field (f : HField) : Leaf Val
  | setOwn (f : HField) (n : Nat) : Leaf Unit
  | openInner (f : HField) (n : Nat) : Leaf Unit
  /-- the handle / parameter area of the layout the command code selects -/
  | area (w : Layouts) (key : Option Int) (enc : Bool) (name : String) : Leaf Val
  /-- the session area: of a command in the inner region, of a response in the message's own -/
  | sessions (rsp : Bool) : Leaf Val
  | done (inner : Bool) : Leaf Unit

def Leaf.run (c : Cfg) : {α : Type} → Leaf α → St → R α
  | _, .start, s => .ok ((), emitM ⟨c.path, .named c.name false, none, "", 0⟩ { s with scs := [⟨c.own, [], 0, none⟩] })
  | _, .field f, s => readPrim c.abort (f.prim c.tb) (c.at f.name) s
  | _, .setOwn f n, s => setListed c.abort c.own (c.at f.name) n s
  | _, .openInner f n, s => openRegion c.abort (c.own + 1) (c.at f.name) n s
  | _, .area w key enc name, s =>
    match key.bind (lookupTy (w.get c.tb)) with
    | none => .error (c.noLayout key, s)
    | some t => decodeArea c.abort c.tb enc t (c.at name) s
  | _, .sessions false, s => decodeSized c.abort c.tb.authCmd (c.at "authorizationArea") (c.own + 1) s
  | _, .sessions true, s => decodeSized c.abort c.tb.authRsp (c.at "authorizationArea") c.own s
  | _, .done inner, s => assertDone c.abort (if inner then c.own + 1 else c.own) s

inductive Prog : Type → Type 1 where
  | pure {α : Type} (a : α) : Prog α
  | bind {α β : Type} (p : Prog α) (k : α → Prog β) : Prog β
  /-- `try: p  except SizeConstraintExceededError` of the message: an overrun of one of its two regions ends the message
  with the fields `vals` decoded so far -/
  | attempt (vals : List (String × Val)) (p : Prog Val) (k : Val → Prog Val) : Prog Val
  | cond {α : Type} (t : Test) (p q : Prog α) : Prog α
  | check {α : Type} (q : Check α) : Prog α
  | leaf {α : Type} (l : Leaf α) : Prog α

def Prog.run (c : Cfg) : {α : Type} → Prog α → St → R α
  | _, .pure a, s => .ok (a, s)
  | _, .bind p k, s => (p.run c s).bind fun a s => (k a).run c s
  | _, .attempt vals p k, s => msgCatch c.abort c.own (c.own + 1) c.name vals (p.run c s) fun v s => (k v).run c s
  | _, .cond t p q, s => if t.eval c.tb then p.run c s else q.run c s
  | _, .check q, s => q.run c.tb s
  | _, .leaf l, s => l.run c s

namespace Prog

def hdr (vals : List (String × Val)) (f : HField) (k : Val → Prog Val) : Prog Val := attempt vals (leaf (.field f)) k

def cmdTail (cc : Int) (vals : List (String × Val)) (enc : Bool) : Prog Val :=
  attempt vals (leaf (.area .cmdParams (some cc) enc "parameters")) fun pv =>
  bind (leaf (.done false)) fun _ => pure (.obj "Command" false (vals ++ [("parameters", pv)]))

def cmdBody : Prog Val :=
  hdr [] .tagCmd fun tag =>
  hdr [("tag", tag)] .cmdSize fun csz =>
  bind (check (.size csz "commandSize")) fun n =>
  bind (leaf (.setOwn .cmdSize n)) fun _ =>
  let vals := [("tag", tag), ("commandSize", csz)]
  hdr vals .cc fun ccv =>
  let vals := vals ++ [("commandCode", ccv)]
  let cc := (vInt ccv).getD 0
  attempt vals (leaf (.area .cmdHandles (some cc) false "handles")) fun hv =>
  let vals := vals ++ [("handles", hv)]
  cond (.sessions tag)
    (hdr vals .authSize fun asz =>
     bind (check (.size asz "authSize")) fun an =>
     bind (leaf (.openInner .authSize an)) fun _ =>
     let vals := vals ++ [("authSize", asz)]
     attempt vals (leaf (.sessions false)) fun area =>
     bind (check (.flag false area)) fun enc =>
     cmdTail cc (vals ++ [("authorizationArea", area)]) enc)
    (cmdTail cc vals false)

def cmdProg : Prog Val := bind (leaf .start) fun _ => cmdBody

def rspFinish (vals : List (String × Val)) : Prog Val :=
  bind (leaf (.done false)) fun _ => bind (check .closed) fun _ => pure (.obj "Response" false vals)

def rspParams (cc : Option Int) (encFlag : Bool) (tag : Val) (vals : List (String × Val)) : Prog Val :=
  attempt vals
    (bind (leaf (.area .rspParams cc encFlag "parameters")) fun pv =>
     cond (.sessions tag) (bind (leaf (.done true)) fun _ => pure pv) (pure pv)) fun pv =>
  let vals := vals ++ [("parameters", pv)]
  cond (.not (.sessions tag)) (rspFinish vals) <|
  attempt vals (leaf (.sessions true)) fun area =>
  bind (check (.flag true area)) fun expected =>
  cond (.lit (expected != encFlag)) (check (.crash "AssertionError" "process_response: parameter_encryption mismatch")) <|
  bind (check .closed) fun _ => pure (.obj "Response" false (vals ++ [("authorizationArea", area)]))

def rspBody (cc : Option Int) (encFlag : Bool) : Prog Val :=
  hdr [] .tagRsp fun tag =>
  hdr [("tag", tag)] .rspSize fun rsz =>
  bind (check (.size rsz "responseSize")) fun n =>
  bind (leaf (.setOwn .rspSize n)) fun _ =>
  let vals := [("tag", tag), ("responseSize", rsz)]
  hdr vals .rc fun rcv =>
  let vals := vals ++ [("responseCode", rcv)]
  cond (.failed rcv) (rspFinish vals) <|
  attempt vals (leaf (.area .rspHandles cc encFlag "handles")) fun hv =>
  let vals := vals ++ [("handles", hv)]
  cond (.sessions tag)
    (hdr vals .paramSize fun psz =>
     bind (check (.size psz "parameterSize")) fun pn =>
     bind (leaf (.openInner .paramSize pn)) fun _ =>
     rspParams cc encFlag tag (vals ++ [("parameterSize", psz)]))
    (rspParams cc encFlag tag vals)

def rspProg (cc : Option Int) (encFlag : Bool) : Prog Val := bind (leaf .start) fun _ => rspBody cc encFlag

end Prog

namespace Prog
variable (c : Cfg)

@[simp] theorem run_pure {α : Type} (a : α) (s : St) : (pure a).run c s = .ok (a, s) := rfl
@[simp] theorem run_bind {α β : Type} (p : Prog α) (k : α → Prog β) (s : St) :
    (bind p k).run c s = (p.run c s).bind fun a s => (k a).run c s := rfl
@[simp] theorem run_attempt (vals : List (String × Val)) (p : Prog Val) (k : Val → Prog Val) (s : St) :
    (attempt vals p k).run c s = msgCatch c.abort c.own (c.own + 1) c.name vals (p.run c s) fun v s => (k v).run c s := rfl
@[simp] theorem run_cond {α : Type} (t : Test) (p q : Prog α) (s : St) :
    (cond t p q).run c s = if t.eval c.tb then p.run c s else q.run c s := rfl
@[simp] theorem run_check {α : Type} (q : Check α) (s : St) : (check q).run c s = q.run c.tb s := rfl
@[simp] theorem run_leaf {α : Type} (l : Leaf α) (s : St) : (leaf l).run c s = l.run c s := rfl

end Prog

namespace Check
variable (tb : MsgTables)

theorem bind_size {β : Type} (v : Val) (what : String) (s : St) (k : Nat → St → R β) :
    (Check.run tb (.size v what) s).bind k =
      match vInt v with
      | none => _root_.crash "TypeError" what s
      | some n => if n < 0 then _root_.crash "AssertionError" "set_constraint: size_max < 0" s else k n.toNat s := by
  simp only [Check.run, Check.verdict]
  cases vInt v with
  | none => rfl
  | some n => by_cases hn : n < 0 <;> simp only [hn, if_true, if_false] <;> rfl

theorem bind_flag {β : Type} (rsp : Bool) (ar : Val) (s : St) (k : Bool → St → R β) :
    (Check.run tb (.flag rsp ar) s).bind k =
      match (if rsp then areaFlag tb.authRsp "encrypt" ar else areaFlag tb.authCmd "decrypt" ar) with
      | .error cls => _root_.crash cls "is_parameter_encryption" s
      | .ok b => k b s := by
  simp only [Check.run, Check.verdict]
  cases (if rsp then areaFlag tb.authRsp "encrypt" ar else areaFlag tb.authCmd "decrypt" ar) <;> rfl

theorem bind_closed {β : Type} (s : St) (k : Unit → St → R β) :
    (Check.run tb .closed s).bind k =
      if s.scs.isEmpty then k () s else _root_.crash "AssertionError" "size_constraints.assert_done()" s := by
  simp only [Check.run, Check.verdict]
  cases s.scs.isEmpty <;> rfl

end Check

namespace Leaf
variable (c : Cfg)

/-- a command code without layouts is noticed before the `try` is entered -/
theorem catch_area (w : Layouts) (key : Option Int) (enc : Bool) (name : String) (s : St)
    (a : Bool) (i j : Nat) (nm : String) (vals : List (String × Val)) (k : Val → St → R Val) :
    msgCatch a i j nm vals (Leaf.run c (.area w key enc name) s) k =
      match key.bind (lookupTy (w.get c.tb)) with
      | none => .error (c.noLayout key, s)
      | some t => msgCatch a i j nm vals (decodeArea c.abort c.tb enc t (c.at name) s) k := by
  simp only [Leaf.run]
  cases key.bind (lookupTy (w.get c.tb)) with
  | none => cases key <;> rfl
  | some t => rfl

theorem catch_area_bind (w : Layouts) (key : Option Int) (enc : Bool) (name : String) (s : St)
    (a : Bool) (i j : Nat) (nm : String) (vals : List (String × Val)) (f k : Val → St → R Val) :
    msgCatch a i j nm vals ((Leaf.run c (.area w key enc name) s).bind f) k =
      match key.bind (lookupTy (w.get c.tb)) with
      | none => .error (c.noLayout key, s)
      | some t => msgCatch a i j nm vals ((decodeArea c.abort c.tb enc t (c.at name) s).bind f) k := by
  simp only [Leaf.run]
  cases key.bind (lookupTy (w.get c.tb)) with
  | none => cases key <;> rfl
  | some t => rfl

end Leaf

theorem decodeCommand_eq_run (abort : Bool) (tb : MsgTables) (path : Path) (s0 : St) :
    decodeCommand abort tb path s0 = Prog.cmdProg.run ⟨abort, tb, path, s0.pos, "Command"⟩ s0 := by
  unfold decodeCommand Prog.cmdProg Prog.cmdBody Prog.hdr Prog.cmdTail
  simp only [Prog.run_pure, Prog.run_bind, Prog.run_attempt, Prog.run_cond, Prog.run_check, Prog.run_leaf,
    Check.bind_size, Check.bind_flag, Leaf.catch_area]
  rfl

theorem decodeResponse_eq_run (abort : Bool) (tb : MsgTables) (cc : Option Int) (enc : Bool) (path : Path) (s0 : St) :
    decodeResponse abort tb cc enc path s0 = (Prog.rspProg cc enc).run ⟨abort, tb, path, s0.pos, "Response"⟩ s0 := by
  unfold decodeResponse Prog.rspProg Prog.rspBody Prog.rspParams Prog.hdr Prog.rspFinish
  simp only [Prog.run_pure, Prog.run_bind, Prog.run_attempt, Prog.run_cond, Prog.run_check, Prog.run_leaf,
    Check.bind_size, Check.bind_flag, Check.bind_closed, Leaf.catch_area, Leaf.catch_area_bind]
  rfl

/-- a property of single runs that is closed under sequencing and the message's `except` and holds of every step -/
structure RunInv (c : Cfg) (X : {α : Type} → St → R α → Prop) : Prop where
  pure : ∀ {α : Type} (a : α) (s : St), X s (.ok (a, s))
  bind : ∀ {α β : Type} {s : St} {r : R α} {f : α → St → R β},
    X s r → (∀ a s', r = .ok (a, s') → X s' (f a s')) → X s (r.bind f)
  caught : ∀ {s : St} {r q : R Val} {k : Val → St → R Val},
    X s r → (∀ v s', r = .ok (v, s') → X s' (k v s')) → Caught c.abort r k q → X s q
  crash : ∀ {α : Type} (cls site : String) (s : St), X s (crash cls site s : R α)
  leaf : ∀ {α : Type} (l : Leaf α) (s : St), X s (l.run c s)

theorem Prog.run_inv {c : Cfg} {X : {α : Type} → St → R α → Prop} (h : RunInv c X) :
    ∀ {α : Type} (p : Prog α) (s : St), X s (p.run c s) := by
  intro α p
  induction p with
  | pure a => exact h.pure a
  | bind p k ihp ihk => exact fun s => h.bind (ihp s) fun a s' _ => ihk a s'
  | attempt vals p k ihp ihk => exact fun s => h.caught (ihp s) (fun v s' _ => ihk v s') (msgCatch_caught ..)
  | cond t p q ihp ihq =>
    intro s
    simp only [Prog.run]
    split
    · exact ihp s
    · exact ihq s
  | check q =>
    intro s
    simp only [Prog.run, Check.run]
    split
    · exact h.pure ..
    · exact h.crash ..
  | leaf l => exact h.leaf l

/-- `X` holds of every step of the message walkers in mode `abort` over the tables `tb` -/
structure WalkInv (abort : Bool) (tb : MsgTables) (X : {α : Type} → St → R α → Prop) : Prop where
  msg : ∀ path own name, RunInv ⟨abort, tb, path, own, name⟩ X
  /-- the stream loop announcing the next message at the end of the input -/
  announce : ∀ path name s, X s (.ok (.none, emitM ⟨path, .named name false, none, "", 0⟩ s) : R Val)

namespace WalkInv
variable {abort : Bool} {tb : MsgTables} {X : {α : Type} → St → R α → Prop} (h : WalkInv abort tb X)
include h

theorem command (path : Path) (s : St) : X s (decodeCommand abort tb path s) := by
  rw [decodeCommand_eq_run]; exact Prog.run_inv (h.msg ..) _ _

theorem response (cc : Option Int) (enc : Bool) (path : Path) (s : St) : X s (decodeResponse abort tb cc enc path s) := by
  rw [decodeResponse_eq_run]; exact Prog.run_inv (h.msg ..) _ _

theorem stream (path : Path) : ∀ (fuel : Nat) (s : St), X s (decodeStream abort tb path fuel s)
  | 0, s => (h.msg path 0 "").crash _ _ s
  | fuel + 1, s => by
    have m := h.msg path 0 ""
    unfold decodeStream
    split
    · exact h.announce ..
    · refine m.bind (h.command path s) fun cmd s1 _ => ?_
      split
      · exact m.crash ..
      · split
        · exact h.announce ..
        · exact m.bind (h.response _ _ path s1) fun _ s2 _ => stream path fuel s2

theorem runWalker (top : Top) (x : List Byte)
    (hd : ∀ t, top = .ty t → X (initSt x) (decode abort t rootPath none (initSt x))) :
    X (initSt x) (runWalker abort tb top x) := by
  cases top with
  | ty t => exact hd t rfl
  | command => exact h.command ..
  | response cc enc => exact h.response ..
  | stream => exact h.stream ..

end WalkInv

/-- a relation between two runs (of one program under two configurations, or from two states) that is closed under
sequencing and the message's `except` and holds of every step -/
structure RunRel (c c' : Cfg) (Y : {α : Type} → (St → R α) → (St → R α) → Prop) : Prop where
  eval : ∀ t : Test, t.eval c.tb = t.eval c'.tb
  pure : ∀ {α : Type} (a : α), Y (fun s => .ok (a, s)) (fun s => .ok (a, s))
  bind : ∀ {α β : Type} {f f' : St → R α} {g g' : α → St → R β},
    Y f f' → (∀ a, Y (g a) (g' a)) → Y (fun s => (f s).bind g) (fun s => (f' s).bind g')
  attempt : ∀ (vals : List (String × Val)) {f f' : St → R Val} {k k' : Val → St → R Val}, Y f f' → (∀ v, Y (k v) (k' v)) →
    Y (fun s => msgCatch c.abort c.own (c.own + 1) c.name vals (f s) k)
      (fun s => msgCatch c'.abort c'.own (c'.own + 1) c'.name vals (f' s) k')
  check : ∀ {α : Type} (q : Check α), Y (q.run c.tb) (q.run c'.tb)
  leaf : ∀ {α : Type} (l : Leaf α), Y (l.run c) (l.run c')

theorem Prog.run_rel {c c' : Cfg} {Y : {α : Type} → (St → R α) → (St → R α) → Prop} (h : RunRel c c' Y) :
    ∀ {α : Type} (p : Prog α), Y (p.run c) (p.run c') := by
  intro α p
  induction p with
  | pure a => exact h.pure a
  | bind p k ihp ihk => exact h.bind ihp ihk
  | attempt vals p k ihp ihk => exact h.attempt vals ihp ihk
  | cond t p q ihp ihq =>
    show Y (fun s => if t.eval c.tb then p.run c s else q.run c s) (fun s => if t.eval c'.tb then p.run c' s else q.run c' s)
    rw [← h.eval t]
    cases t.eval c.tb
    · exact ihq
    · exact ihp
  | check q => exact h.check q
  | leaf l => exact h.leaf l

/-- `hend`: the relation is closed under the loop's test for the end of the input (the two states are equally empty) -/
theorem RunRel.stream {c c' : Cfg} {Y : {α : Type} → (St → R α) → (St → R α) → Prop} (h : RunRel c c' Y)
    {abort abort' : Bool} {tb tb' : MsgTables} {path path' : Path}
    (henc : ∀ cmd, cmdEncrypt tb' cmd = cmdEncrypt tb cmd)
    (hend : ∀ (name : String) {f f' : St → R Val}, Y f f' →
      Y (fun s => if s.inp.isEmpty then .ok (.none, emitM ⟨path, .named name false, none, "", 0⟩ s) else f s)
        (fun s => if s.inp.isEmpty then .ok (.none, emitM ⟨path', .named name false, none, "", 0⟩ s) else f' s))
    (hcmd : Y (decodeCommand abort tb path) (decodeCommand abort' tb' path'))
    (hrsp : ∀ cc enc, Y (decodeResponse abort tb cc enc path) (decodeResponse abort' tb' cc enc path')) :
    ∀ fuel, Y (decodeStream abort tb path fuel) (decodeStream abort' tb' path' fuel)
  | 0 => h.check (.crash "ModelError" "stream fuel")
  | fuel + 1 => by
    refine hend "Command" (h.bind hcmd fun cmd => ?_)
    simp only [henc]
    cases cmdEncrypt tb cmd with
    | error cls => exact h.check (.crash cls "is_parameter_encryption(command)")
    | ok enc => exact hend "Response" (h.bind (hrsp _ enc) fun _ => RunRel.stream h henc hend hcmd hrsp fuel)
