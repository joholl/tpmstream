import TpmProofs.NoCrash
import TpmProofs.MsgSound
/-!
# Commands, responses and streams never fail with an internal error — but for one assertion (C06)

The message walkers under the static side conditions `MsgTables.total`.  The only internal error left is the
`assert` in `process_response` that compares the caller's `parameter_encryption` flag with the response's own session
attributes (a known finding: a response whose sessions disagree with its command's trips it).
-/

theorem decodeCommand_nc (tb : MsgTables) (ht : tb.total = true) (path : Path) (s0 : St) :
    NC (decodeCommand true tb path s0) :=
  decodeCommand_tol Tol.nc tb (MsgTables.total_spec ht).1 (fun _ => (MsgTables.total_spec ht).2) path s0
    fun _ _ _ _ _ _ _ _ _ => NC.ok _ _

/-! ## responses: no internal error but the encryption-flag assertion -/

/-- the only crash allowed -/
def isMismatch (c m : String) : Prop := c = "AssertionError" ∧ m = "process_response: parameter_encryption mismatch"

def NCX {α : Type} (r : R α) : Prop := ∀ c m s, r = .error (.crash c m, s) → isMismatch c m

theorem NC.ncx {α : Type} {r : R α} (h : NC r) : NCX r := fun c m s hh => absurd hh (h c m s)

theorem NCX.bind {α β : Type} {r : R α} {f : α → St → R β} (h : NCX r) (hf : ∀ a t, r = .ok (a, t) → NCX (f a t)) :
    NCX (r.bind f) := by
  intro c m s hh
  rcases bind_error_inv hh with hr | ⟨a, t, hr, hh⟩
  · exact h c m s hr
  · exact hf a t hr c m s hh

theorem Tol.ncx {β : Type} : Tol True (NCX : R β → Prop) := ⟨fun _ _ h => (NC.error_ne h).ncx, fun h => absurd trivial h⟩

theorem decodeResponse_ncx (tb : MsgTables) (ht : tb.total = true) (cc : Option Int) (enc : Bool) (path : Path) (s0 : St)
    (hcc : (cc.bind (lookupTy tb.rspHandles)).isSome = true ∧ (cc.bind (lookupTy tb.rspParams)).isSome = true) :
    NCX (decodeResponse true tb cc enc path s0) :=
  decodeResponse_tol Tol.ncx tb (MsgTables.total_spec ht).1 (fun _ => (MsgTables.total_spec ht).2) cc enc path s0
    (fun _ _ _ _ he => by cases he; exact ⟨rfl, rfl⟩) fun _ _ _ _ _ _ _ _ _ => (NC.ok _ _).ncx

/-- every command code with command layouts also has response layouts -/
def MsgTables.paired (tb : MsgTables) : Bool :=
  tb.cmdHandles.all fun kt => (lookupTy tb.rspHandles kt.1).isSome && (lookupTy tb.rspParams kt.1).isSome

theorem decodeStream_ncx (tb : MsgTables) (ht : tb.total = true) (hp : tb.paired = true) (path : Path) :
    ∀ (fuel : Nat) (s : St), s.inp.length < fuel → NCX (decodeStream true tb path fuel s) :=
  fun fuel s hf =>
    decodeStream_tol Tol.ncx tb (MsgTables.total_spec ht).1 (fun _ => (MsgTables.total_spec ht).2) path
      (fun _ _ _ _ he => by cases he; exact ⟨rfl, rfl⟩) fuel s (fun _ => hf) fun _ _ _ _ _ _ _ _ _ _ => (NC.ok _ _).ncx
