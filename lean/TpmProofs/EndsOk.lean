import TpmProofs.Shape
import TpmProofs.ShapeMsg
/-!
# No list's run in a decoder stream is ended by a byte-buffer parent (`endsOk`, C14), either mode, every input

`endsOk` (TpmModel/Print.lean) is the hypothesis of `c14_buffers_are_blocks`.  It is proved of the decoder here.  The static reason
(`Ty.eoOk`, decided by the kernel on the regenerated tables): a `list[BYTE]` field is never the first field of a list element, is
always directly preceded by a plain primitive field of the same structure (its length), and no union with a byte-array member is a
list element.  The dynamic part is compositional like `Shape.lean`; the path facts come from `decode_gd` & co.  Its predicates
mirror Shape's: `DE` for a decode (`GD`), `FE`/`FW` for fields (`GN`), `RE` for element loops (`GR`), `ME` for message slots,
`MS` for a message (`GM`).
-/

/-! ## static side conditions -/

def isBufField (k : FKind) (t : Ty) : Bool := k == .counted && t.name == "BYTE"

def Fields.headMayBuf : Fields → Bool
  | .nil => false
  | .cons _ k t _ => isBufField k t

def Arms.noByteArm : Arms → Bool
  | .nil => true
  | .consNone _ _ rest => rest.noByteArm
  | .cons _ _ _ rest => rest.noByteArm
  | .consBytes _ _ elem _ rest => elem.name != "BYTE" && rest.noByteArm

/-- as a list element: the event after the element's own event is not a byte-buffer parent -/
def Ty.elemOk : Ty → Bool
  | .struct _ _ fs => !fs.headMayBuf
  | .union _ arms => arms.noByteArm
  | _ => true

mutual
def Ty.eoOk : Ty → Bool
  | .prim _ => true
  | .struct _ _ fs => fs.eoOk
  | .tpm2bBytes _ _ _ _ _ => true
  | .tpm2b _ _ _ _ body => body.eoOk
  | .union _ arms => arms.eoOk
  | .bad _ => true
def Fields.eoOk : Fields → Bool
  | .nil => true
  | .cons _ k t rest =>
    t.eoOk && (k != .counted || t.elemOk) && (!rest.headMayBuf || (t.isPrimTy && k == .plain)) && rest.eoOk
def Arms.eoOk : Arms → Bool
  | .nil => true
  | .consNone _ _ rest => rest.eoOk
  | .cons _ _ t rest => t.eoOk && rest.eoOk
  | .consBytes _ _ _ _ rest => rest.eoOk
end

def Ty.areaEo (t : Ty) (encParam : Ty) : Bool :=
  t.eoOk &&
  (match encVariant encParam t with
   | some (_, fs) => fs.eoOk
   | none => true)

def MsgTables.eoOk (tb : MsgTables) : Bool :=
  tb.authCmd.eoOk && tb.authCmd.elemOk && tb.authRsp.eoOk && tb.authRsp.elemOk &&
  (tb.cmdHandles ++ tb.cmdParams ++ tb.rspHandles ++ tb.rspParams).all fun kt => kt.2.areaEo tb.encParam

def firstM : List Event → Option MEvent
  | [] => none
  | .warning _ :: r => firstM r
  | .marshal m :: _ => some m

def headBuf (E : List Event) : Bool :=
  match firstM E with
  | some c => isBufParent c
  | none => false

def noLP (E : List Event) : Prop := ∀ p, .marshal p ∈ E → isListParent p = false

theorem firstM_append : ∀ (A B : List Event), firstM (A ++ B) = match firstM A with | some c => some c | none => firstM B
  | [], B => by simp [firstM]
  | .warning _ :: A, B => by simp only [List.cons_append, firstM]; exact firstM_append A B
  | .marshal m :: A, B => by simp [firstM]

theorem firstM_gw : ∀ (W : List Event), GW W → firstM W = none
  | [], _ => rfl
  | .warning _ :: W, h => by
    simp only [firstM]; exact firstM_gw W (fun e he => h e (List.mem_cons_of_mem _ he))
  | .marshal m :: W, h => by have := h (.marshal m) (List.mem_cons_self ..); simp [isWarn] at this

theorem firstM_mem : ∀ (E : List Event) (c : MEvent), firstM E = some c → .marshal c ∈ E
  | [], c, h => by simp [firstM] at h
  | .warning _ :: E, c, h => List.mem_cons_of_mem _ (firstM_mem E c (by simpa [firstM] using h))
  | .marshal m :: E, c, h => by simp only [firstM, Option.some.injEq] at h; subst h; exact List.mem_cons_self ..

theorem firstNonChild_append (P : Path) : ∀ (A B : List Event),
    firstNonChild P (A ++ B) = match firstNonChild P A with | some c => some c | none => firstNonChild P B
  | [], B => by simp [firstNonChild]
  | .warning _ :: A, B => by simp only [List.cons_append, firstNonChild]; exact firstNonChild_append P A B
  | .marshal m :: A, B => by
    simp only [List.cons_append, firstNonChild]
    split
    · exact firstNonChild_append P A B
    · rfl

theorem firstNonChild_mem (P : Path) : ∀ (E : List Event) (c : MEvent), firstNonChild P E = some c → .marshal c ∈ E
  | [], c, h => by simp [firstNonChild] at h
  | .warning _ :: E, c, h => List.mem_cons_of_mem _ (firstNonChild_mem P E c (by simpa [firstNonChild] using h))
  | .marshal m :: E, c, h => by
    simp only [firstNonChild] at h
    split at h
    · exact List.mem_cons_of_mem _ (firstNonChild_mem P E c h)
    · simp only [Option.some.injEq] at h; subst h; exact List.mem_cons_self ..

theorem firstNonChild_nonchild (P : Path) : ∀ (B : List Event), (∀ m, .marshal m ∈ B → isChild P m.path = false) →
    firstNonChild P B = firstM B
  | [], _ => rfl
  | .warning _ :: B, h => by
    simp only [firstNonChild, firstM]
    exact firstNonChild_nonchild P B (fun m hm => h m (List.mem_cons_of_mem _ hm))
  | .marshal m :: B, h => by
    simp [firstNonChild, firstM, h m (List.mem_cons_self ..)]

theorem headBuf_of_firstM {E : List Event} {c : MEvent} (h : firstM E = some c) (hb : headBuf E = false) : isBufParent c = false := by
  simpa [headBuf, h] using hb

theorem headBuf_gw {W : List Event} (h : GW W) : headBuf W = false := by simp [headBuf, firstM_gw W h]

theorem headBuf_append (A B : List Event) : headBuf (A ++ B) = (match firstM A with | some c => isBufParent c | none => headBuf B) := by
  simp only [headBuf, firstM_append]
  cases firstM A <;> rfl

theorem headBuf_append_first {A : List Event} (B : List Event) (h : (firstM A).isSome = true) : headBuf (A ++ B) = headBuf A := by
  unfold headBuf
  rw [firstM_append]
  cases hf : firstM A with
  | none => rw [hf] at h; cases h
  | some c => rfl

theorem headBuf_append_false {A B : List Event} (ha : headBuf A = false) (hb : headBuf B = false) : headBuf (A ++ B) = false := by
  rw [headBuf_append]
  cases hf : firstM A with
  | none => exact hb
  | some c => exact headBuf_of_firstM hf ha

/-- a structure's own event before `F` -/
theorem own_event_eh (σ : Path) (name : String) (enc : Bool) {F : List Event} (h : endsOk F = true) :
    endsOk (.marshal ⟨σ, .named name enc, none, "", 0⟩ :: F) = true ∧ headBuf (.marshal ⟨σ, .named name enc, none, "", 0⟩ :: F) = false :=
  ⟨by simpa [endsOk, isListParent] using h, by simp [headBuf, firstM, isBufParent, isListParent]⟩

theorem noLP.of_gw {W : List Event} (h : GW W) : noLP W := fun p hp => (gw_no_marshal h p hp).elim
theorem noLP.append {A B : List Event} (ha : noLP A) (hb : noLP B) : noLP (A ++ B) := by
  intro p hp
  rcases List.mem_append.mp hp with h | h
  · exact ha p h
  · exact hb p h
theorem noLP.of_av {E : List Event} (h : AV E) : noLP E := by
  intro p hp
  have := h p hp
  cases hv : p.val with
  | none => simp [hv] at this
  | some v => cases hty : p.ty <;> simp [isListParent, hv, hty]

theorem isListParent_ty {p : MEvent} (h : isListParent p = true) : ∃ n, p.ty = .listOf n := by
  cases hty : p.ty with
  | named a b => simp [isListParent, hty] at h
  | listOf n => exact ⟨n, rfl⟩

theorem isBufParent_valued {c : MEvent} (h : c.val.isSome = true) : isBufParent c = false := by
  cases hv : c.val with
  | none => simp [hv] at h
  | some v => cases hty : c.ty <;> simp [isBufParent, isListParent, hv, hty]

theorem isBufParent_named {c : MEvent} {n : String} {b : Bool} (h : c.ty = .named n b) : isBufParent c = false := by
  simp [isBufParent, isListParent, h]

theorem endsOk_append_gen : ∀ (A B : List Event), endsOk A = true → endsOk B = true →
    (∀ p, .marshal p ∈ A → isListParent p = true → ∀ c, firstNonChild p.path B = some c → isBufParent c = false) →
    endsOk (A ++ B) = true
  | [], B, _, hb, _ => by simpa using hb
  | .warning _ :: A, B, ha, hb, h => by
    simp only [List.cons_append, endsOk] at ha ⊢
    exact endsOk_append_gen A B ha hb (fun p hp => h p (List.mem_cons_of_mem _ hp))
  | .marshal p :: A, B, ha, hb, h => by
    simp only [List.cons_append, endsOk, Bool.and_eq_true] at ha ⊢
    refine ⟨?_, endsOk_append_gen A B ha.2 hb (fun q hq => h q (List.mem_cons_of_mem _ hq))⟩
    have h1 := ha.1
    by_cases hl : isListParent p = true
    · simp only [hl, if_true] at h1 ⊢
      rw [firstNonChild_append]
      cases hf : firstNonChild p.path A with
      | some c => simpa [hf] using h1
      | none =>
        simp only []
        cases hf2 : firstNonChild p.path B with
        | none => rfl
        | some c => simp [h p (List.mem_cons_self ..) hl c hf2]
    · simp [hl]

theorem endsOk_noLP : ∀ (E : List Event), noLP E → endsOk E = true
  | [], _ => rfl
  | .warning _ :: E, h => by simp only [endsOk]; exact endsOk_noLP E (fun p hp => h p (List.mem_cons_of_mem _ hp))
  | .marshal p :: E, h => by
    simp only [endsOk, Bool.and_eq_true]
    exact ⟨by simp [h p (List.mem_cons_self ..)], endsOk_noLP E (fun q hq => h q (List.mem_cons_of_mem _ hq))⟩

theorem endsOk_gw {W : List Event} (h : GW W) : endsOk W = true := endsOk_noLP W (noLP.of_gw h)

/-- appending events that are non-children of every list event before them -/
theorem endsOk_append_nc (A B : List Event) (ha : endsOk A = true) (hb : endsOk B = true)
    (hnc : ∀ p, .marshal p ∈ A → isListParent p = true → ∀ c, .marshal c ∈ B → isChild p.path c.path = false)
    (hh : headBuf B = true → noLP A) : endsOk (A ++ B) = true := by
  apply endsOk_append_gen A B ha hb
  intro p hp hl c hc
  rw [firstNonChild_nonchild p.path B (hnc p hp hl)] at hc
  cases hbuf : headBuf B with
  | false => exact headBuf_of_firstM hc hbuf
  | true => have := hh hbuf p hp; rw [this] at hl; cases hl

theorem endsOk_append_noLP (A B : List Event) (ha : noLP A) (hb : endsOk B = true) : endsOk (A ++ B) = true :=
  endsOk_append_gen A B (endsOk_noLP A ha) hb (fun p hp hl => by rw [ha p hp] at hl; cases hl)

theorem endsOk_append_gw (A W : List Event) (ha : endsOk A = true) (hw : GW W) : endsOk (A ++ W) = true :=
  endsOk_append_gen A W ha (endsOk_gw hw) (fun p _ _ c hc => (gw_no_marshal hw c (firstNonChild_mem _ _ _ hc)).elim)

/-- a list event followed by valued events only (a byte buffer or another list of primitives) -/
theorem endsOk_list_av (p : MEvent) (X : List Event) (h : AV X) : endsOk (.marshal p :: X) = true := by
  simp only [endsOk, Bool.and_eq_true]
  refine ⟨?_, endsOk_noLP X (noLP.of_av h)⟩
  split
  · split
    · rename_i c hc
      simp [isBufParent_valued (h c (firstNonChild_mem _ _ _ hc))]
    · rfl
  · rfl

/-- the first event outside the run of `P`'s children is the first event, unless that is a child of `P` -/
theorem firstNonChild_first (P : Path) : ∀ (E : List Event) (c : MEvent), firstNonChild P E = some c →
    ∃ c0, firstM E = some c0 ∧ (isChild P c0.path = false → c = c0)
  | [], c, h => by simp [firstNonChild] at h
  | .warning _ :: E, c, h => firstNonChild_first P E c h
  | .marshal m :: E, c, h => by
    refine ⟨m, rfl, fun hm => ?_⟩
    simp only [firstNonChild, hm, Bool.false_eq_true, if_false, Option.some.injEq] at h
    exact h.symm

theorem headBuf_av {E : List Event} (h : AV E) : headBuf E = false := by
  unfold headBuf
  split
  · rename_i c hc
    exact isBufParent_valued (h c (firstM_mem _ _ hc))
  · rfl

/-! ## result-aware chaining -/

def R.isOk {α : Type} (r : R α) : Prop := ∃ a t, r = .ok (a, t)

theorem R.not_isOk_error {α : Type} (e : Err × St) : ¬ (R.isOk (.error e : R α)) := by
  rintro ⟨a, t, h⟩; cases h

theorem R.not_isOk_crash {α : Type} (c m : String) (s : St) : ¬ (R.isOk (crash c m s : R α)) := by
  rintro ⟨a, t, h⟩; cases h

theorem Tr.bindQ {α β : Type} {P1 : List Event → Prop} {Q Q2 : R β → List Event → Prop} {s : St} {r : R α} {f : α → St → R β}
    (h : Tr P1 s r) (hf : ∀ a t, r = .ok (a, t) → Tr (Q2 (f a t)) t (f a t)) (h1 : ∀ e E, P1 E → Q (.error e) E)
    (h12 : ∀ (r' : R β) E1 E2, R.isOk r → P1 E1 → Q2 r' E2 → Q r' (E1 ++ E2)) :
    Tr (Q (r.bind f)) s (r.bind f) := by
  cases r with
  | error e => obtain ⟨e, t⟩ := e; exact h.mono (h1 _)
  | ok at' =>
    obtain ⟨a, t⟩ := at'
    obtain ⟨n1, o1, p1⟩ := h
    obtain ⟨n2, o2, p2⟩ := hf a t rfl
    refine ⟨n1 ++ n2, ?_, by rw [List.map_append]; exact h12 _ _ _ ⟨a, t, rfl⟩ p1 p2⟩
    simp only [R.bind_ok]
    rw [o2]
    simp only [stOf] at o1
    rw [o1, List.append_assoc]

/-- events of `decode t σ`: no list's run is ended by a buffer; the first event is no buffer; if the decode completes it showed
something; as a list element (`elemOk`) the first event outside the element's own slot is no buffer; a primitive shows no list -/
def DE (t : Ty) (ok : Prop) (σ : Path) (E : List Event) : Prop :=
  endsOk E = true ∧ headBuf E = false ∧ (ok → (firstM E).isSome = true) ∧
  (t.elemOk = true → ∀ P : Path, (∀ b r, isChild P (σ ++ b :: r) = false) → ∀ c, firstNonChild P E = some c → isBufParent c = false) ∧
  (t.isPrimTy = true → noLP E)

def FW (k : FKind) (t : Ty) (ok : Prop) (E : List Event) : Prop :=
  endsOk E = true ∧ (headBuf E = true → isBufField k t = true) ∧ (ok → (firstM E).isSome = true) ∧
  ((t.isPrimTy && k == .plain) = true → noLP E)

def FE (fs : Fields) (E : List Event) : Prop := endsOk E = true ∧ (headBuf E = true → fs.headMayBuf = true)

def AE (arms : Arms) (E : List Event) : Prop := endsOk E = true ∧ (arms.noByteArm = true → headBuf E = false)

def RE (P : Path) (E : List Event) : Prop :=
  endsOk E = true ∧ headBuf E = false ∧ (∀ c, firstNonChild P E = some c → isBufParent c = false)

/-- a list of primitives: `endsOk`, and a buffer only if the element type is `BYTE` -/
def EL (name : String) (E : List Event) : Prop := endsOk E = true ∧ (name ≠ "BYTE" → headBuf E = false)

/-- the events after a `TPM2B`'s own event: the size field first -/
def TB (σ : Path) (E : List Event) : Prop :=
  endsOk E = true ∧ (∀ c, firstM E = some c → c.val.isSome = true ∧ ∃ b, c.path = σ ++ [b])

section
variable (abort : Bool)

theorem PrimEv.first {p : Prim} {σ : Path} {ok : Prop} {E : List Event} (h : PrimEv abort p σ ok E) (hok : ok) :
    (firstM E).isSome = true := by
  rcases h with ⟨_, hn⟩ | ⟨_, _, _, _, rfl⟩
  · exact (hn hok).elim
  · rfl

/-- the size field of a `TPM2B`, then (if it was read) `E2` -/
theorem PrimEv.tb {p : Prim} {σ : Path} {b : PathNode} {ok : Prop} {E1 E2 : List Event} (h : PrimEv abort p (σ ++ [b]) ok E1)
    (h2 : endsOk E2 = true) (hok : ok ∨ E2 = []) : TB σ (E1 ++ E2) := by
  have hav := h.av
  rcases h with ⟨rfl, hn⟩ | ⟨x, W, _, hw, rfl⟩
  · rcases hok with hok | rfl
    · exact (hn hok).elim
    · exact ⟨rfl, fun _ hc => nomatch hc⟩
  · exact ⟨endsOk_append_noLP _ E2 (noLP.of_av hav) h2, fun c hc => by cases hc; exact ⟨rfl, b, rfl⟩⟩

theorem RE.of_gw (P : Path) {W : List Event} (h : GW W) : RE P W :=
  ⟨endsOk_gw h, headBuf_gw h, fun c hc => (gw_no_marshal h c (firstNonChild_mem _ _ _ hc)).elim⟩

/-- the ok-free part of `DE` for a list element -/
def DEe (σ : Path) (E : List Event) : Prop :=
  endsOk E = true ∧ headBuf E = false ∧
  (∀ P : Path, (∀ b r, isChild P (σ ++ b :: r) = false) → ∀ c, firstNonChild P E = some c → isBufParent c = false)

theorem DE.toDEe {t : Ty} {ok : Prop} {σ : Path} {E : List Event} (h : DE t ok σ E) (he : t.elemOk = true) : DEe σ E :=
  ⟨h.1, h.2.1, h.2.2.2.1 he⟩

/-- one element (`DEe`, under its own slot), then later elements -/
theorem RE.cons {okc : MEvent → Prop} {π : Path} {f : String} {i : Nat} {E1 E2 : List Event}
    (h1 : DEe (π ++ [⟨f, some i⟩]) E1 ∧ GD okc (π ++ [⟨f, some i⟩]) E1) (h2 : RE (π ++ [⟨f, none⟩]) E2 ∧ GR okc π f (i + 1) E2) :
    RE (π ++ [⟨f, none⟩]) (E1 ++ E2) ∧ GR okc π f i (E1 ++ E2) := by
  refine ⟨⟨?_, ?_, ?_⟩, GR.cons h1.2 h2.2⟩
  · apply endsOk_append_nc E1 E2 h1.1.1 h2.1.1
    · intro p hp hl c hc
      obtain ⟨n, hty⟩ := isListParent_ty hl
      exact elem_nonchild h1.2 h2.2 hp hty hc
    · intro hb; rw [h2.1.2.1] at hb; cases hb
  · exact headBuf_append_false h1.1.2.1 h2.1.2.1
  · intro c hc
    rw [firstNonChild_append] at hc
    cases hf : firstNonChild (π ++ [⟨f, none⟩]) E1 with
    | some c' =>
      rw [hf] at hc
      cases hc
      exact h1.1.2.2 _ (fun b r => by rw [List.append_assoc]; exact isChild_deeper π _ _ _ _) _ hf
    | none =>
      rw [hf] at hc
      exact h2.1.2.2 c hc

variable {okc : MEvent → Prop}

theorem repeatDec_eo (d : Path → St → R Val) (π : Path) (f : String)
    (hd : ∀ i s, Tr (fun E => DEe (π ++ [⟨f, some i⟩]) E ∧ GD okc (π ++ [⟨f, some i⟩]) E) s (d (π ++ [⟨f, some i⟩]) s)) :
    ∀ (n i : Nat) (s : St), Tr (fun E => RE (π ++ [⟨f, none⟩]) E ∧ GR okc π f i E) s (repeatDec d (π ++ [⟨f, none⟩]) n i s) :=
  repeatDec_each d _ (fun i s => by rw [elemPath_snoc']; exact hd i s) (fun i => ⟨RE.of_gw _ GW.nil, GR.of_gw π f i GW.nil⟩)
    (fun _ _ _ => RE.cons)

/-- a list event followed by the events of its elements -/
theorem list_endsOk (π : Path) (f : String) (tn : String) (E : List Event) (h : RE (π ++ [⟨f, none⟩]) E) :
    endsOk (.marshal ⟨π ++ [⟨f, none⟩], .listOf tn, none, "", 0⟩ :: E) = true := by
  simp only [endsOk, Bool.and_eq_true]
  refine ⟨?_, h.1⟩
  simp only [isListParent, if_true]
  split
  · rename_i c hc
    simp [h.2.2 c hc]
  · rfl

theorem readPrimList_el (p : Prim) (path : Path) (n : Nat) (s : St) : Tr (EL p.name) s (readPrimList abort p path n s) := by
  unfold readPrimList
  refine Tr.of_emit (P := AV) (.marshal ⟨path, .listOf p.name, none, "", 0⟩) ?_ (fun E hE => ⟨endsOk_list_av _ E hE, fun hn => ?_⟩)
  · exact (repeatDec_av _ _ (fun q s => readPrim_av abort p q s) n 0 _).bind_quiet fun _ _ => rfl
  · simp [headBuf, firstM, isBufParent, hn]
end

/-! ## fields, and the walkers by mutual induction -/

def EO (E : List Event) : Prop := endsOk E = true

theorem eventTag_notLP (body : Ty) (p : Path) : isListParent ⟨p, body.eventTag, none, "", 0⟩ = false := by
  cases body <;> rfl

/-- below the own event of a structure / union: the first event outside a slot that holds `σ` is the first event -/
theorem below_first {okc : MEvent → Prop} {σ : Path} {N : List String} {F : List Event} (hg : GN okc σ N F) (hb : headBuf F = false)
    (P : Path) (hP : ∀ b r, isChild P (σ ++ b :: r) = false) (c : MEvent) (hc : firstNonChild P F = some c) : isBufParent c = false := by
  rw [firstNonChild_nonchild P F (fun m hm => by
    obtain ⟨⟨g, i, r, _, hpp⟩, _⟩ := hg.1 m hm
    rw [hpp]; exact hP _ _)] at hc
  exact headBuf_of_firstM hc hb

theorem own_event_de (t : Ty) (ok : Prop) (σ : Path) (name : String) (enc : Bool) (F : List Event) (he : endsOk F = true)
    (hel : t.elemOk = true → ∀ P : Path, (∀ b r, isChild P (σ ++ b :: r) = false) → ∀ c, firstNonChild P F = some c → isBufParent c = false)
    (hp : t.isPrimTy = false) : DE t ok σ (.marshal ⟨σ, .named name enc, none, "", 0⟩ :: F) := by
  refine ⟨(own_event_eh σ name enc he).1, (own_event_eh σ name enc he).2, fun _ => by simp [firstM], ?_, fun h => by rw [hp] at h; cases h⟩
  intro hel' P hP c hc
  simp only [firstNonChild] at hc
  split at hc
  · exact hel hel' P hP c hc
  · simp only [Option.some.injEq] at hc; subst hc
    exact isBufParent_named rfl

/-- a field that is not a list shows what its decode shows -/
theorem DE.toFW {t : Ty} {ok : Prop} {σ : Path} {E : List Event} (k : FKind) (h : DE t ok σ E) : FW k t ok E :=
  ⟨h.1, fun hb => (by rw [h.2.1] at hb; cases hb), h.2.2.1, fun hp => h.2.2.2.2 (Bool.and_eq_true _ _ ▸ hp).1⟩

section
variable {okc : MEvent → Prop} {pk : Prim → Bool} (abort : Bool)

theorem decodeFieldWith_eo (d : Path → Option Int → St → R Val) (t : Ty)
    (hd : ∀ σ sel s, Tr (DE t (R.isOk (d σ sel s)) σ) s (d σ sel s)) (hgd : ∀ σ sel s, Tr (GD okc σ) s (d σ sel s))
    (kind : FKind) (hk : kind = .counted → t.elemOk = true) (π : Path) (f : String) (vals : List (String × Val)) (s : St) :
    Tr (FW kind t (R.isOk (decodeFieldWith d t.name kind (π ++ [⟨f, none⟩]) vals s))) s
      (decodeFieldWith d t.name kind (π ++ [⟨f, none⟩]) vals s) := by
  have crashFW : ∀ (k : FKind) (ok : Prop), (ok → False) → FW k t ok [] := fun k ok hok =>
    ⟨rfl, fun h => (by simp [headBuf, firstM] at h), fun h => (hok h).elim, fun _ p hp => (by cases hp)⟩
  cases kind with
  | plain =>
    simp only [decodeFieldWith]
    exact (hd _ none s).mono fun _ => DE.toFW _
  | selected sel =>
    simp only [decodeFieldWith]
    split
    · exact Tr.quiet rfl (crashFW _ _ (R.not_isOk_crash _ _ _))
    · exact (hd _ _ s).mono fun _ => DE.toFW _
  | counted =>
    simp only [decodeFieldWith]
    split
    · exact Tr.quiet rfl (crashFW _ _ (R.not_isOk_crash _ _ _))
    · rename_i c _
      refine Tr.of_emit (P := RE (π ++ [⟨f, none⟩])) (.marshal ⟨π ++ [⟨f, none⟩], .listOf t.name, none, "", 0⟩) ?_ (fun E hE => ?_)
      · exact ((repeatDec_eo (okc := okc) _ π f (fun i s => ((hd _ none s).mono fun E h => h.toDEe (hk rfl)).and (hgd _ none s)) c 0 _).mono
          fun _ h => h.1).bind_quiet fun _ _ => rfl
      · refine ⟨list_endsOk π f t.name E hE, fun hb => ?_, fun _ => by simp [firstM], fun hp => by simp at hp⟩
        simp only [headBuf, firstM, isBufParent, isListParent, Bool.true_and, decide_eq_true_eq, TyTag.listOf.injEq] at hb
        simp [isBufField, hb]

/-- the frame of a `TPM2B` (`ty`): its own event, the size field — the first event below, with a value —, the region this opens, `rest` -/
theorem tpm2b_de (ty : Ty) (hp : ty.isPrimTy = false) (ok : Prop) (szP : Prim) (name szName : String) (σ : Path) (s : St)
    {rest : Val → St → St → R Val} (hrest : ∀ nv t t2, Tr EO t2 (rest nv t t2)) :
    Tr (DE ty ok σ) s ((readPrim abort szP (σ ++ [⟨szName, none⟩]) (emitM ⟨σ, .named name false, none, "", 0⟩ s)).bind fun nv t =>
      if nv.asInt?.getD 0 < 0 then crash "AssertionError" "set_constraint: size_max < 0" t else
      (openRegion abort t.pos (σ ++ [⟨szName, none⟩]) (nv.asInt?.getD 0).toNat t).bind fun _ t2 => rest nv t t2) := by
  refine Tr.of_emit (P := TB σ) (.marshal ⟨σ, .named name false, none, "", 0⟩) ?_ (fun F hF => ?_)
  · refine Tr.bindQ (Q := fun _ => TB σ) (Q2 := fun _ => EO) (readPrim_ev abort szP _ _) (fun nv t _ => ?_)
      (fun e E hE => by simpa using hE.tb abort (E2 := []) rfl (.inr rfl)) (fun r' E1 E2 hok h1 h2 => h1.tb abort h2 (.inl hok))
    split
    · exact Tr.quiet rfl rfl
    · exact (openRegion_gw abort _ _ _ t).bind (fun _ t2 _ => hrest nv t t2) (fun _ => endsOk_gw)
        (fun E1 E2 h1 => endsOk_append_noLP E1 E2 (noLP.of_gw h1))
  · refine own_event_de _ _ σ name false F hF.1 (fun _ P hP c hc => ?_) hp
    obtain ⟨c0, hf, hc0⟩ := firstNonChild_first P F c hc
    obtain ⟨hv, b, hpath⟩ := hF.2 c0 hf
    rw [hc0 (by rw [hpath]; exact hP b [])]
    exact isBufParent_valued hv

mutual
theorem decode_eo (hpk : PrimLink abort pk okc) : (t : Ty) → t.eoOk = true → t.shapeOk pk = true → ∀ (σ : Path) (sel : Option Int) (s : St),
    Tr (DE t (R.isOk (decode abort t σ sel s)) σ) s (decode abort t σ sel s)
  | .prim p, _, _, σ, sel, s => by
    simp only [decode]
    exact (readPrim_ev abort p σ s).mono fun E h =>
      ⟨endsOk_noLP E (noLP.of_av h.av), headBuf_av h.av, h.first abort,
        fun _ P _ c hc => isBufParent_valued (h.av c (firstNonChild_mem _ _ _ hc)), fun _ => noLP.of_av h.av⟩
  | .struct name isP fs, he, h, σ, sel, s => by
    simp only [Ty.shapeOk, Bool.and_eq_true, decide_eq_true_eq] at h
    simp only [Ty.eoOk] at he
    simp only [decode]
    refine Tr.of_emit (P := fun F => FE fs F ∧ GN okc σ fs.names F) (.marshal ⟨σ, .named name false, none, "", 0⟩) ?_ (fun F hF => ?_)
    · exact ((decodeFields_eo hpk fs he h.1 h.2 σ [] _).and (decodeFields_gn abort hpk fs h.1 h.2 σ [] _)).bind_quiet fun _ _ => rfl
    · refine own_event_de _ _ σ name false F hF.1.1 (fun hel P hP c hc => ?_) rfl
      refine below_first hF.2 ?_ P hP c hc
      cases hb : headBuf F with
      | false => rfl
      | true => have := hF.1.2 hb; simp [Ty.elemOk, this] at hel
  | .tpm2bBytes name szName szP bufName elem, he, h, σ, sel, s => by
    simp only [decode]
    exact tpm2b_de abort _ rfl _ szP name szName σ s fun nv t t2 =>
      ((readPrimList_el abort elem _ _ t2).mono fun _ hh => hh.1).bind
        (fun bv t3 _ => (assertDone_gw abort _ t3).bind_quiet fun _ _ => rfl) (fun _ hh => hh) endsOk_append_gw
  | .tpm2b name szName szP bufName body, he, h, σ, sel, s => by
    simp only [Ty.shapeOk, Bool.and_eq_true, decide_eq_true_eq] at h
    simp only [Ty.eoOk] at he
    simp only [decode]
    refine tpm2b_de abort _ rfl _ szP name szName σ s fun nv t t2 => ?_
    split
    · refine Tr.of_emit (P := GW) (.marshal ⟨σ ++ [⟨bufName, none⟩], body.eventTag, none, "", 0⟩) ?_ (fun W hW => ?_)
      · exact (assertDone_gw abort _ _).bind_quiet fun _ _ => rfl
      · show endsOk _ = true
        simp only [endsOk, eventTag_notLP, Bool.and_eq_true]
        exact ⟨by simp, endsOk_gw hW⟩
    · exact Tr.ownCatch (P1 := EO) (P2 := GW) abort _ ((decode_eo hpk body he h.2 _ none t2).mono fun _ hh => hh.1)
        (fun bv t3 _ => (assertDone_gw abort _ t3).bind_quiet fun _ _ => rfl)
        (fun _ hh => hh) (fun E w hh => endsOk_append_gw E _ hh (GW.cons_w w GW.nil)) (fun E1 E2 h1 h2 => endsOk_append_gw E1 E2 h1 h2)
  | .union name arms, he, h, σ, sel, s => by
    simp only [Ty.shapeOk] at h
    simp only [Ty.eoOk] at he
    simp only [decode]
    split
    · refine Tr.of_emit (P := fun E => E = []) (.marshal ⟨σ, .named name false, none, "", 0⟩) ?_ (fun F hF => ?_)
      · split
        · exact Tr.quiet rfl rfl
        · exact Tr.quiet rfl rfl
      · subst hF
        exact own_event_de _ _ σ name false [] rfl (fun _ P _ c hc => by simp [firstNonChild] at hc) rfl
    · rename_i an _
      refine Tr.of_emit (P := fun A => AE arms A ∧ GN okc σ [an] A) (.marshal ⟨σ, .named name false, none, "", 0⟩)
        ((decodeArm_eo hpk arms he h name an σ _).and (decodeArm_gn abort hpk arms h name an σ _)) (fun A hA => ?_)
      exact own_event_de _ _ σ name false A hA.1.1 (fun hel P hP c hc => below_first hA.2 (hA.1.2 hel) P hP c hc) rfl
  | .bad _, _, _, σ, sel, s => by
    simp only [decode]
    exact Tr.quiet rfl ⟨rfl, rfl, fun hok => (R.not_isOk_crash _ _ _ hok).elim, fun _ P _ c hc => (by simp [firstNonChild] at hc),
      fun _ p hp => (by cases hp)⟩

theorem decodeArm_eo (hpk : PrimLink abort pk okc) : (arms : Arms) → arms.eoOk = true → arms.shapeOk pk = true →
    ∀ (un want : String) (σ : Path) (s : St), Tr (AE arms) s (decodeArm abort arms un want σ s)
  | .nil, _, _, un, want, σ, s => by
    simp only [decodeArm]
    exact Tr.quiet rfl ⟨rfl, fun _ => rfl⟩
  | .consNone an k rest, he, h, un, want, σ, s => by
    simp only [Arms.shapeOk] at h
    simp only [Arms.eoOk] at he
    simp only [decodeArm]
    split
    · exact Tr.quiet rfl ⟨rfl, fun _ => rfl⟩
    · exact decodeArm_eo hpk rest he h un want σ s
  | .cons an k t rest, he, h, un, want, σ, s => by
    simp only [Arms.shapeOk, Bool.and_eq_true] at h
    simp only [Arms.eoOk, Bool.and_eq_true] at he
    simp only [decodeArm]
    split
    · exact ((decode_eo hpk t he.1 h.1 _ none s).mono fun E hh => ⟨hh.1, fun _ => hh.2.1⟩).bind_quiet fun _ _ => rfl
    · exact decodeArm_eo hpk rest he.2 h.2 un want σ s
  | .consBytes an k elem n rest, he, h, un, want, σ, s => by
    simp only [Arms.shapeOk, Bool.and_eq_true] at h
    simp only [Arms.eoOk] at he
    simp only [decodeArm]
    have conv : ∀ E, EL elem.name E → AE (.consBytes an k elem n rest) E := fun E hh =>
      ⟨hh.1, fun hn => hh.2 (by
        simp only [Arms.noByteArm, Bool.and_eq_true, bne_iff_ne, ne_eq] at hn
        exact hn.1)⟩
    split
    · refine Tr.bind_quiet (Tr.mono (P := EL elem.name) ?_ conv) fun _ _ => rfl
      unfold readListArm
      split
      · exact Tr.quiet rfl ⟨rfl, fun _ => rfl⟩
      · exact readPrimList_el abort elem _ _ s
    · exact (decodeArm_eo hpk rest he h.2 un want σ s).mono (fun E hh => ⟨hh.1, fun hn => hh.2 (by
        simp only [Arms.noByteArm, Bool.and_eq_true] at hn; exact hn.2)⟩)

theorem decodeFields_eo (hpk : PrimLink abort pk okc) : (fs : Fields) → fs.eoOk = true → fs.shapeOk pk = true → fs.names.Nodup →
    ∀ (π : Path) (vals : List (String × Val)) (s : St), Tr (FE fs) s (decodeFields abort fs π vals s)
  | .nil, _, _, _, π, vals, s => by
    simp only [decodeFields]
    exact Tr.quiet rfl ⟨rfl, fun h => by simp [headBuf, firstM] at h⟩
  | .cons fname kind t rest, he, h, hnd, π, vals, s => by
    simp only [Fields.shapeOk, Bool.and_eq_true] at h
    simp only [Fields.eoOk, Bool.and_eq_true, Bool.or_eq_true, bne_iff_ne, ne_eq, Bool.not_eq_true'] at he
    simp only [Fields.names, List.nodup_cons] at hnd
    simp only [decodeFields]
    have hk : kind = .counted → t.elemOk = true := by
      intro hk
      rcases he.1.1.2 with h' | h'
      · exact absurd hk h'
      · exact h'
    refine Tr.bindQ (Q := fun _ => FE (.cons fname kind t rest)) (Q2 := fun _ => fun E => FE rest E ∧ GN okc π rest.names E)
      ((decodeFieldWith_eo (fun p sel s => decode abort t p sel s) t (fun σ sel s => decode_eo hpk t he.1.1.1 h.1.1 σ sel s)
          (fun σ sel s => decode_gd abort hpk t h.1.1 σ sel s) kind hk π fname vals s).and
        (decodeFieldWith_gn (fun p sel s => decode abort t p sel s) t.name (fun σ sel s => decode_gd abort hpk t h.1.1 σ sel s)
          kind (decode_av_counted abort h.1.2) π fname vals s))
      (fun v t2 _ => (decodeFields_eo hpk rest he.2 h.2 hnd.2 π (vals ++ [(fname, v)]) t2).and
        (decodeFields_gn abort hpk rest h.2 hnd.2 π (vals ++ [(fname, v)]) t2))
      (fun e E hE => ⟨hE.1.1, hE.1.2.1⟩)
      (fun r' E1 E2 hok h1 h2 => ⟨?_, fun hbuf => ?_⟩)
    · apply endsOk_append_nc E1 E2 h1.1.1 h2.1.1
      · intro p hp _ c hc
        exact gn_nonchild h1.2 h2.2 (fun g hg => List.mem_singleton.mp hg ▸ hnd.1) p hp c hc
      · intro hbuf
        have := h2.1.2 hbuf
        rcases he.1.2 with h' | h'
        · rw [this] at h'; cases h'
        · exact h1.1.2.2.2 (by simp only [Bool.and_eq_true]; exact h')
    · rw [headBuf_append_first E2 (h1.1.2.2.1 hok)] at hbuf
      exact h1.1.2.1 hbuf
end
end

/-! ## areas, session lists, messages, streams -/

/-- message fields: in their slots, `endsOk`, not starting with a buffer -/
def ME (okc : MEvent → Prop) (π : Path) (N : List String) (E : List Event) : Prop :=
  GN okc π N E ∧ endsOk E = true ∧ headBuf E = false

theorem ME.of_gw {okc : MEvent → Prop} (π : Path) (N : List String) {E : List Event} (h : GW E) : ME okc π N E :=
  ⟨GN.of_gw π N h, endsOk_gw h, headBuf_gw h⟩

theorem ME.mono {okc : MEvent → Prop} {π : Path} {N N' : List String} {E : List Event} (h : ME okc π N E) (hs : ∀ g ∈ N, g ∈ N') :
    ME okc π N' E := ⟨h.1.mono hs, h.2⟩

theorem ME.append {okc : MEvent → Prop} {π : Path} {N1 N2 : List String} {E1 E2 : List Event} (h1 : ME okc π N1 E1) (h2 : ME okc π N2 E2)
    (hd : ∀ g ∈ N1, g ∉ N2) : ME okc π (N1 ++ N2) (E1 ++ E2) := by
  refine ⟨h1.1.append h2.1 hd, ?_, ?_⟩
  · exact endsOk_append_nc E1 E2 h1.2.1 h2.2.1 (fun p hp _ c hc => gn_nonchild h1.1 h2.1 hd p hp c hc)
      (fun hb => by rw [h2.2.2] at hb; cases hb)
  · exact headBuf_append_false h1.2.2 h2.2.2

/-- a message: `GM`, `endsOk`, not starting with a buffer -/
def MS (okc : MEvent → Prop) (σ : Path) (E : List Event) : Prop := GM okc σ E ∧ endsOk E = true ∧ headBuf E = false

theorem MS.root {okc : MEvent → Prop} {σ : Path} {N : List String} (name : String) {E : List Event} (h : ME okc σ N E) :
    MS okc σ (.marshal ⟨σ, .named name false, none, "", 0⟩ :: E) :=
  ⟨(GM1.root name h.1).toGM, own_event_eh σ name false h.2.1⟩

theorem MS.append {okc : MEvent → Prop} {σ : Path} (hσ : σ ≠ []) {E1 E2 : List Event} (h1 : MS okc σ E1) (h2 : MS okc σ E2) :
    MS okc σ (E1 ++ E2) := by
  refine ⟨h1.1.append hσ h2.1, ?_, ?_⟩
  · apply endsOk_append_gen E1 E2 h1.2.1 h2.2.1
    intro p hp hl c hc
    rcases h2.1.2 with rfl | ⟨m0, E', rfl, hm0⟩
    · simp [firstNonChild] at hc
    · obtain ⟨n, hty⟩ := isListParent_ty hl
      simp only [firstNonChild, hm0, gd_root_nonchild hσ h1.1.1 hp hty] at hc
      simp only [Bool.false_eq_true, if_false, Option.some.injEq] at hc
      subst hc
      have := h2.2.2
      simpa [headBuf, firstM] using this
  · exact headBuf_append_false h1.2.2 h2.2.2

section
variable {okc : MEvent → Prop} {pk : Prim → Bool} (abort : Bool)

theorem decodeArea_eo (hpk : PrimLink abort pk okc) (tb : MsgTables) (enc : Bool) (t : Ty)
    (ht : t.areaOk pk tb.encParam = true) (hte : t.areaEo tb.encParam = true) (σ : Path) (s : St) :
    Tr (fun E => endsOk E = true ∧ headBuf E = false) s (decodeArea abort tb enc t σ s) := by
  simp only [Ty.areaOk, Bool.and_eq_true] at ht
  simp only [Ty.areaEo, Bool.and_eq_true] at hte
  unfold decodeArea
  split
  · split
    · exact (decode_eo abort hpk t hte.1 ht.1 σ none s).mono (fun _ hh => ⟨hh.1, hh.2.1⟩)
    · rename_i name fs hv
      rw [hv] at ht hte
      simp only [Bool.and_eq_true, decide_eq_true_eq] at ht
      refine Tr.of_emit (P := FE fs) (.marshal ⟨σ, .named name true, none, "", 0⟩) ?_ (fun F hF => ?_)
      · exact (decodeFields_eo abort hpk fs hte.2 ht.2.1 ht.2.2 σ [] _).bind_quiet fun _ _ => rfl
      · exact own_event_eh σ name true hF.1
  · exact (decode_eo abort hpk t hte.1 ht.1 σ none s).mono (fun _ hh => ⟨hh.1, hh.2.1⟩)

theorem sizedLoop_eo (hpk : PrimLink abort pk okc) (t : Ty) (ht : t.shapeOk pk = true) (hte : t.eoOk = true) (hel : t.elemOk = true)
    (π : Path) (f : String) (cid : Nat) :
    ∀ (fuel i : Nat) (acc : List Val) (s : St),
      Tr (fun E => RE (π ++ [⟨f, none⟩]) E ∧ GR okc π f i E) s (sizedLoop abort t (π ++ [⟨f, none⟩]) cid fuel i acc s) :=
  sizedLoop_each abort t _ cid
    (fun i s => by
      rw [elemPath_snoc']
      exact ((decode_eo abort hpk t hte ht _ none s).mono fun _ h => h.toDEe hel).and (decode_gd abort hpk t ht _ none s))
    (fun i _ h => ⟨RE.of_gw _ h, GR.of_gw π f i h⟩) (fun _ => RE.cons)

theorem decodeSized_eo (hpk : PrimLink abort pk okc) (t : Ty) (ht : t.shapeOk pk = true) (hn : t.name ≠ "BYTE") (hte : t.eoOk = true)
    (hel : t.elemOk = true) (π : Path) (f : String) (cid : Nat) (s : St) :
    Tr (fun E => endsOk E = true ∧ headBuf E = false) s (decodeSized abort t (π ++ [⟨f, none⟩]) cid s) := by
  have hb : headBuf [.marshal ⟨π ++ [⟨f, none⟩], .listOf t.name, none, "", 0⟩] = false := by simp [headBuf, firstM, isBufParent, hn]
  exact Tr.of_emit _ ((sizedLoop_eo abort hpk t ht hte hel π f cid _ 0 [] _).mono fun _ h => h.1)
    fun E hE => ⟨list_endsOk π f t.name E hE, hb⟩

theorem lookupTy_areaEo {tb : MsgTables} (he : tb.eoOk = true) {w : Layouts} {k : Int} {t : Ty}
    (hl : lookupTy (w.get tb) k = some t) : t.areaEo tb.encParam = true := by
  unfold MsgTables.eoOk at he
  simp only [Bool.and_eq_true, List.all_eq_true] at he
  obtain ⟨k', hm⟩ := lookupTy_mem hl
  exact he.2 _ (w.get_sub tb _ hm)

theorem ME.slotted (π : Path) : Slotted (ME okc π) := ⟨ME.of_gw π, ME.mono, ME.append⟩

theorem Leaf.run_me {c : Cfg} (hpk : PrimLink c.abort pk okc) (h : c.tb.shapeOk pk = true) (he : c.tb.eoOk = true) {α : Type}
    (l : Leaf α) (N : List String) (s : St) (hN : l.writes = some N) : Tr (ME okc c.path N) s (l.run c s) := by
  refine (Leaf.run_gn hpk h l N s hN).and ?_
  cases l with
  | start => cases hN
  | field f => exact (readPrim_av c.abort _ _ s).mono fun E e => ⟨endsOk_noLP E (noLP.of_av e), headBuf_av e⟩
  | setOwn f n => exact (setListed_gw ..).mono fun _ e => ⟨endsOk_gw e, headBuf_gw e⟩
  | openInner f n => exact (openRegion_gw ..).mono fun _ e => ⟨endsOk_gw e, headBuf_gw e⟩
  | done inner => exact (assertDone_gw ..).mono fun _ e => ⟨endsOk_gw e, headBuf_gw e⟩
  | area w key enc name =>
    simp only [Leaf.run]
    split
    · exact Tr.quiet rfl ⟨rfl, rfl⟩
    · rename_i t ht
      obtain ⟨k, rfl⟩ : ∃ k, key = some k := by cases key <;> simp at ht ⊢
      exact decodeArea_eo c.abort hpk c.tb enc t (lookupTy_areaOk h ht) (lookupTy_areaEo he ht) _ s
  | sessions rsp =>
    unfold MsgTables.shapeOk at h
    unfold MsgTables.eoOk at he
    simp only [Bool.and_eq_true, decide_eq_true_eq] at h he
    cases rsp
    · exact decodeSized_eo c.abort hpk _ h.1.1.1.1.2 h.1.1.1.2 he.1.1.1.1 he.1.1.1.2 ..
    · exact decodeSized_eo c.abort hpk _ h.1.1.2 h.1.2 he.1.1.2 he.1.2 ..

theorem decodeCommand_ms (hpk : PrimLink abort pk okc) (tb : MsgTables) (h : tb.shapeOk pk = true) (he : tb.eoOk = true) (σ : Path) (s0 : St) :
    Tr (MS okc σ) s0 (decodeCommand abort tb σ s0) := by
  rw [decodeCommand_eq_run]
  exact Tr.msgRoot
    (Prog.In.cmdBody.tr (ME.slotted σ) (Leaf.run_me (c := ⟨abort, tb, σ, s0.pos, "Command"⟩) hpk h he) Prog.cmdSlots_nodup)
    (fun _ => MS.root _) s0

theorem decodeResponse_ms (hpk : PrimLink abort pk okc) (tb : MsgTables) (h : tb.shapeOk pk = true) (he : tb.eoOk = true) (cc : Option Int) (encFlag : Bool) (σ : Path) (s0 : St) :
    Tr (MS okc σ) s0 (decodeResponse abort tb cc encFlag σ s0) := by
  rw [decodeResponse_eq_run]
  exact Tr.msgRoot
    ((Prog.In.rspBody cc encFlag).tr (ME.slotted σ) (Leaf.run_me (c := ⟨abort, tb, σ, s0.pos, "Response"⟩) hpk h he) Prog.rspSlots_nodup)
    (fun _ => MS.root _) s0

theorem decodeStream_ms (hpk : PrimLink abort pk okc) (tb : MsgTables) (h : tb.shapeOk pk = true) (he : tb.eoOk = true) (σ : Path) (hσ : σ ≠ []) :
    ∀ (fuel : Nat) (s : St), Tr (MS okc σ) s (decodeStream abort tb σ fuel s) :=
  decodeStream_each abort tb σ ⟨⟨GD.of_gw σ GW.nil, Or.inl rfl⟩, rfl, rfl⟩ (fun name => MS.root (N := []) name (ME.of_gw σ [] GW.nil))
    (fun h1 h2 => h1.append hσ h2) (decodeCommand_ms abort hpk tb h he σ) (fun cc enc => decodeResponse_ms abort hpk tb h he cc enc σ)

/-- **every run of every top-level decode, in either mode, on every input: no list's run is ended by a byte-buffer parent** -/
theorem runWalker_endsOk (hpk : PrimLink abort pk okc) (tb : MsgTables) (h : tb.shapeOk pk = true) (he : tb.eoOk = true) (top : Top)
    (htop : ∀ t, top = .ty t → t.shapeOk pk = true ∧ t.eoOk = true) (x : List Byte) :
    Tr (fun E => endsOk E = true) (initSt x) (runWalker abort tb top x) := by
  unfold runWalker
  cases top with
  | ty t => exact (decode_eo abort hpk t (htop t rfl).2 (htop t rfl).1 rootPath none _).mono (fun _ hh => hh.1)
  | command => exact (decodeCommand_ms abort hpk tb h he rootPath _).mono (fun _ hh => hh.2.1)
  | response cc enc => exact (decodeResponse_ms abort hpk tb h he cc enc rootPath _).mono (fun _ hh => hh.2.1)
  | stream => exact (decodeStream_ms abort hpk tb h he rootPath (by simp [rootPath]) _ _).mono (fun _ hh => hh.2.1)
end
