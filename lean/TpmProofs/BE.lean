import TpmModel.Basic
/-! Big-endian two's-complement codec: length and round trip, for every width and both signednesses. -/

theorem toBE_length (k n : Nat) : (toBE k n).length = k := by
  induction k generalizing n with
  | zero => simp [toBE]
  | succ k ih => simp [toBE, ih]

theorem fromBE_snoc (bs : List Byte) (b : Byte) : fromBE (bs ++ [b]) = fromBE bs * 256 + b.toNat := by
  simp [fromBE, List.foldl_append]

theorem snoc_induction {P : List Byte → Prop} (h0 : P []) (h1 : ∀ bs b, P bs → P (bs ++ [b])) :
    ∀ bs, P bs := by
  have : ∀ l : List Byte, P l.reverse := by
    intro l
    induction l with
    | nil => simpa using h0
    | cons b l ih => simpa using h1 _ b ih
  intro bs
  simpa using this bs.reverse

theorem fromBE_append (as bs : List Byte) : fromBE (as ++ bs) = fromBE as * 256 ^ bs.length + fromBE bs := by
  induction bs using snoc_induction with
  | h0 => simp [fromBE]
  | h1 bs b ih =>
    rw [← List.append_assoc, fromBE_snoc, fromBE_snoc, ih, List.length_append, List.length_singleton, Nat.pow_succ]
    simp only [Nat.add_mul, Nat.mul_assoc, Nat.add_assoc]

theorem fromBE_toBE (k n : Nat) : fromBE (toBE k n) = n % 256 ^ k := by
  induction k generalizing n with
  | zero => simp [toBE, fromBE, Nat.mod_one]
  | succ k ih =>
    rw [toBE, fromBE_snoc, ih, Nat.pow_succ', Nat.mod_mul]
    simp
    omega

theorem fromBE_lt (bs : List Byte) : fromBE bs < 256 ^ bs.length := by
  induction bs using snoc_induction with
  | h0 => simp [fromBE]
  | h1 bs b ih =>
    rw [fromBE_snoc, List.length_append, List.length_singleton, Nat.pow_succ]
    have := b.toNat_lt
    have : (fromBE bs + 1) * 256 ≤ 256 ^ bs.length * 256 := Nat.mul_le_mul_right 256 ih
    omega

theorem toBE_fromBE (bs : List Byte) : toBE bs.length (fromBE bs) = bs := by
  induction bs using snoc_induction with
  | h0 => simp [toBE]
  | h1 bs b ih =>
    have := b.toNat_lt
    rw [fromBE_snoc, List.length_append, List.length_singleton, toBE,
      show (fromBE bs * 256 + b.toNat) / 256 = fromBE bs by omega,
      show (fromBE bs * 256 + b.toNat) % 256 = b.toNat by omega, ih]
    simp

theorem pow256 (k : Nat) : 256 ^ k = 2 ^ (8 * k) := by
  rw [Nat.pow_mul]

theorem fromBE_lt_size {bs : List Byte} {size : Nat} (h : bs.length = size) : fromBE bs < 2 ^ (8 * size) :=
  pow256 size ▸ h ▸ fromBE_lt bs

theorem intToBytes_length (size : Nat) (x : Int) : (intToBytes size x).length = size := by
  simp [intToBytes, toBE_length]

theorem two_pow_split (size : Nat) (h : 0 < size) : 2 ^ (8 * size) = 2 * 2 ^ (8 * size - 1) := by
  have : 8 * size = (8 * size - 1) + 1 := by omega
  conv => lhs; rw [this, Nat.pow_succ]
  omega

/-- reduction modulo `M` of an integer within one `M` of zero -/
theorem emod_near {x : Int} {M : Nat} (hlo : -(M : Int) ≤ x) (hhi : x < M) :
    x % (M : Int) = if 0 ≤ x then x else x + M := by
  split
  · exact Int.emod_eq_of_lt ‹_› hhi
  · rw [← Int.add_emod_right]; exact Int.emod_eq_of_lt (by omega) (by omega)

theorem intOfBytes_intToBytes (size : Nat) (signed : Bool) (x : Int) (h : inRange size signed x = true) :
    intOfBytes size signed (intToBytes size x) = x := by
  unfold intOfBytes intToBytes
  rw [fromBE_toBE, pow256]
  cases signed with
  | false =>
    simp only [inRange, Bool.false_eq_true, if_false, Bool.and_eq_true, decide_eq_true_eq] at h
    rw [emod_near (by omega) h.2, if_pos h.1, Nat.mod_eq_of_lt (by omega)]
    simp only [Bool.false_and, Bool.false_eq_true, if_false]
    omega
  | true =>
    simp only [inRange, if_true, Bool.and_eq_true, decide_eq_true_eq] at h
    obtain ⟨⟨hs, hlo⟩, hhi⟩ := h
    have hsplit := two_pow_split size hs
    generalize (2 ^ (8 * size) : Nat) = M at *
    generalize (2 ^ (8 * size - 1) : Nat) = H at *
    rw [emod_near (by omega) (by omega)]
    simp only [Bool.true_and, decide_eq_true_eq]
    by_cases hx : 0 ≤ x
    · rw [if_pos hx, Nat.mod_eq_of_lt (by omega), if_neg (by omega)]; omega
    · rw [if_neg hx, Nat.mod_eq_of_lt (by omega), if_pos (by omega)]; omega

/-- every byte string of the declared width is the encoding of the integer it decodes to -/
theorem intToBytes_intOfBytes (size : Nat) (signed : Bool) (bs : List Byte) (h : bs.length = size) :
    intToBytes size (intOfBytes size signed bs) = bs := by
  unfold intOfBytes intToBytes
  have hlt := fromBE_lt_size h
  generalize hM : (2 ^ (8 * size) : Nat) = M at *
  have key : ∀ y : Int, y % (M : Int) = (fromBE bs : Int) → toBE size (y % (M : Int)).toNat = bs := by
    intro y hy
    rw [hy, Int.toNat_natCast, ← h, toBE_fromBE]
  simp only []
  split
  · apply key
    have : ((fromBE bs : Int) - (M : Int)) % (M : Int) = (fromBE bs : Int) % M := Int.sub_emod_right _ _
    rw [this]; exact Int.emod_eq_of_lt (by omega) (by omega)
  · apply key
    exact Int.emod_eq_of_lt (by omega) (by omega)
