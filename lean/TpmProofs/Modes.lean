import TpmProofs.Trace
/-!
# Warn mode and strict mode agree up to the first problem (C07)

`MRel rs rw`: `rs` is the result of a step in strict mode, `rw` the result of the same step from the same state in
warn mode.  If strict mode succeeds, warn mode does exactly the same (same value, same state, hence no warning).  If
strict mode stops with `depleted` or an internal error, so does warn mode, in the same state.  If strict mode raises a
constraint error `e` in state `t`, warn mode either raises the same error in the same state (it is on its way to the
owner of the region, or it is one of the two errors warn mode cannot continue after) or its trace continues
`t.out ++ [warning e] ++ …` — for a value error `t.out ++ [the offending event, warning e] ++ …`.

Two auxiliary facts of the same kind come first and last: `Grow` (a trace only grows; `MRel.bind` needs it of the warn-mode
continuation) and `NW` (a strict trace holds no warning).  The layout level is proved for `MG s rs rw := MRel rs rw ∧ Grow s rw`,
which composes without side goals; the `_mrel` theorems are its first halves.
-/

def Grow {α : Type} (s : St) (r : R α) : Prop := ∃ new, (stOf r).out = s.out ++ new

theorem Grow.refl {α : Type} (s : St) (a : α) : Grow s (.ok (a, s) : R α) := ⟨[], by simp [stOf]⟩
theorem Grow.err {α : Type} (s : St) (e : Err) : Grow s (.error (e, s) : R α) := ⟨[], by simp [stOf]⟩

theorem Grow.trans_st {α : Type} {s t : St} {r : R α} (h1 : ∃ new, t.out = s.out ++ new) (h2 : Grow t r) : Grow s r := by
  obtain ⟨n1, h1⟩ := h1
  obtain ⟨n2, h2⟩ := h2
  exact ⟨n1 ++ n2, by rw [h2, h1, List.append_assoc]⟩

theorem Grow.bind {α β : Type} {s : St} {r : R α} {f : α → St → R β} (h : Grow s r)
    (hf : ∀ a t, r = .ok (a, t) → Grow t (f a t)) : Grow s (r.bind f) := by
  cases r with
  | error e => obtain ⟨e, t⟩ := e; exact h
  | ok at' =>
    obtain ⟨a, t⟩ := at'
    exact Grow.trans_st h (hf a t rfl)

theorem Grow.of_emit {α : Type} {s : St} (e : Event) {r : R α} (h : Grow (emit e s) r) : Grow s r :=
  Grow.trans_st ⟨[(s.pos, e)], rfl⟩ h

theorem Grow.of_scs {α : Type} {s : St} (scs : List SC) {r : R α} (h : Grow { s with scs := scs } r) : Grow s r := h

theorem Grow.of_quiet {α : Type} {s : St} {r : R α} (h : (stOf r).out = s.out) : Grow s r := ⟨[], by simp [h]⟩

theorem take_grow (n : Nat) (s : St) : Grow s (take n s) := Grow.of_quiet (take_out n s)

theorem consume_grow (n : Nat) (s : St) : Grow s (consume n s) := Grow.of_quiet (consume_out n s)

theorem bytesParsed_grow (path : Path) (size : Nat) (s : St) : Grow s (bytesParsed path size s) :=
  Grow.of_quiet (bytesParsed_out path size s)

theorem readPrim_grow (abort : Bool) (p : Prim) (path : Path) (s : St) : Grow s (readPrim abort p path s) := by
  unfold readPrim
  refine (bytesParsed_grow _ _ s).bind fun _ t _ => (take_grow _ t).bind fun bs t2 _ => ?_
  simp only []
  split
  · exact Grow.of_emit _ (Grow.refl _ _)
  · split
    · exact Grow.err _ _
    · exact Grow.of_emit _ (Grow.of_emit _ (Grow.refl _ _))

theorem anticipateM_grow (abort : Bool) (vpath : Path) (v id : Nat) (s : St) : Grow s (anticipateM abort vpath v id s) := by
  unfold anticipateM
  split
  · exact Grow.refl _ _
  · split
    · exact Grow.err _ _
    · exact Grow.of_emit _ (Grow.refl _ _)

theorem openRegion_grow (abort : Bool) (id : Nat) (cpath : Path) (n : Nat) (s : St) : Grow s (openRegion abort id cpath n s) := by
  unfold openRegion
  exact (anticipateM_grow _ _ _ _ s).bind fun _ t _ => Grow.of_quiet rfl

theorem setListed_grow (abort : Bool) (id : Nat) (cpath : Path) (n : Nat) (s : St) : Grow s (setListed abort id cpath n s) := by
  unfold setListed
  exact Grow.of_scs _ (anticipateM_grow _ _ _ _ _)

theorem assertDoneSC_grow (abort : Bool) (c : SC) (s : St) : Grow s (assertDoneSC abort c s) := by
  unfold assertDoneSC
  split
  · exact Grow.of_quiet rfl
  · split
    · exact Grow.refl _ _
    · split
      · exact Grow.err _ _
      · apply Grow.of_emit
        split
        · exact (bytesParsed_grow _ _ _).bind fun _ t _ => consume_grow _ t
        · exact Grow.refl _ _

theorem Grow.caught {abort : Bool} {s : St} {r q : R Val} {k : Val → St → R Val} (hr : Grow s r)
    (hk : ∀ v t, r = .ok (v, t) → Grow t (k v t)) (hq : Caught abort r k q) : Grow s q := by
  cases hq with
  | ok h => subst h; exact Grow.trans_st hr (hk _ _ rfl)
  | pass h => subst h; exact hr
  | warn _ _ h => subst h; exact Grow.trans_st hr (Grow.of_emit _ (Grow.refl _ _))

theorem grow_stepInv (abort : Bool) : StepInv abort @Grow where
  pure a s := Grow.refl s a
  crash _ _ _ := Grow.of_quiet rfl
  reject e s _ := Grow.err s e
  bind := Grow.bind
  emit m _ h := Grow.of_emit (.marshal m) h
  scs l h := Grow.of_scs l h
  caught hr hk hq := hr.caught hk hq
  readPrim p _ := readPrim_grow abort p
  openRegion := openRegion_grow abort
  setListed := setListed_grow abort
  assertDoneSC := assertDoneSC_grow abort

theorem arm_grow (abort : Bool) : (arms : Arms) → ∀ (un want : String) (path : Path) (s : St),
    Grow s (decodeArm abort arms un want path s) :=
  fun arms => (grow_stepInv abort).arm arms arms.pk_true

theorem grow_walkInv (abort : Bool) (tb : MsgTables) : WalkInv abort tb @Grow := (grow_stepInv abort).walkInv tb tb.pk_true

/-! ## the relation between the modes -/

def Err.isProblem : Err → Bool
  | .value _ _ _ => true
  | .exceeded _ _ _ _ _ _ => true
  | .subceeded _ _ _ _ => true
  | .anticipated _ _ _ _ _ _ _ => true
  | _ => false

/-- the trace `out` continues the strict trace `t.out` with the warning for `e` — after the offending event if `e` is a
value error -/
def FirstW (e : Err) (t : St) (out : List (Nat × Event)) : Prop :=
  (∃ rest, out = t.out ++ (t.pos, .warning e) :: rest) ∨
  (∃ ev x rest, out = t.out ++ (t.pos, .marshal ev) :: (t.pos, .warning e) :: rest ∧
    e = .value ev.path ev.vclass x ∧ ev.val = some x)

theorem FirstW.append {e : Err} {t : St} {out : List (Nat × Event)} (h : FirstW e t out) (more : List (Nat × Event)) :
    FirstW e t (out ++ more) := by
  rcases h with ⟨rest, h⟩ | ⟨ev, x, rest, h, h2, h3⟩
  · exact Or.inl ⟨rest ++ more, by rw [h]; simp⟩
  · exact Or.inr ⟨ev, x, rest ++ more, by rw [h]; simp, h2, h3⟩

theorem FirstW.grow {α : Type} {e : Err} {t t2 : St} {r : R α} (h : FirstW e t t2.out) (hg : Grow t2 r) :
    FirstW e t (stOf r).out := by
  obtain ⟨new, hn⟩ := hg
  rw [hn]; exact h.append new

theorem FirstW.emitW (e : Err) (t : St) : FirstW e t (emitW e t).out := Or.inl ⟨[], rfl⟩

def MRel {α : Type} (rs rw : R α) : Prop :=
  match rs with
  | .ok (v, t) => rw = .ok (v, t)
  | .error (e, t) => rw = .error (e, t) ∨ (e.isProblem = true ∧ FirstW e t (stOf rw).out)

theorem MRel.refl {α : Type} (r : R α) : MRel r r := by
  cases r with
  | ok vs => obtain ⟨v, t⟩ := vs; rfl
  | error es => obtain ⟨e, t⟩ := es; exact Or.inl rfl

theorem MRel.bind {α β : Type} {rs rw : R α} {fs fw : α → St → R β} (h : MRel rs rw)
    (hf : ∀ a t, rs = .ok (a, t) → MRel (fs a t) (fw a t)) (hg : ∀ a t, Grow t (fw a t)) :
    MRel (rs.bind fs) (rw.bind fw) := by
  cases rs with
  | ok vs =>
    obtain ⟨a, t⟩ := vs
    simp only [MRel] at h
    subst h
    exact hf a t rfl
  | error es =>
    obtain ⟨e, t⟩ := es
    simp only [MRel] at h
    rcases h with h | ⟨hp, hw⟩
    · subst h; exact Or.inl rfl
    · refine Or.inr ⟨hp, ?_⟩
      cases rw with
      | error e2 => exact hw
      | ok vs2 => obtain ⟨a2, t2⟩ := vs2; exact FirstW.grow hw (hg a2 t2)

/-- either `except`: strict mode passes every error on (`ownCatch_true`, `msgCatch_true`); where warn mode catches an overrun, its
warning is the first, or comes after the first -/
theorem MRel.caught {rs rw q : R Val} {ks kw : Val → St → R Val} (h : MRel rs rw)
    (hk : ∀ a t, rs = .ok (a, t) → MRel (ks a t) (kw a t)) (hg : ∀ a t, Grow t (kw a t)) (hq : Caught false rw kw q) :
    MRel (rs.bind ks) q := by
  cases rs with
  | ok vs =>
    obtain ⟨a, t⟩ := vs
    simp only [MRel] at h
    subst h
    cases hq with
    | ok h' => cases h'; exact hk a t rfl
    | pass h' => cases h'
    | warn _ _ h' => cases h'
  | error es =>
    obtain ⟨e, t⟩ := es
    simp only [MRel] at h
    rcases h with h | ⟨hp, hw⟩
    · subst h
      cases hq with
      | ok h' => cases h'
      | pass h' => cases h'; exact Or.inl rfl
      | warn _ _ h' => cases h'; exact Or.inr ⟨rfl, FirstW.emitW _ _⟩
    · refine Or.inr ⟨hp, ?_⟩
      cases hq with
      | ok h' => subst h'; exact FirstW.grow hw (hg _ _)
      | pass h' => subst h'; exact hw
      | warn _ _ h' => subst h'; exact hw.append _

/-- `try … except SizeConstraintExceededError` of a region owner -/
theorem MRel.ownCatch {rs rw : R Val} {ks kw : Val → St → R Val} (id : Nat) (h : MRel rs rw)
    (hk : ∀ a t, rs = .ok (a, t) → MRel (ks a t) (kw a t)) (hg : ∀ a t, Grow t (kw a t)) :
    MRel (_root_.ownCatch true id rs ks) (_root_.ownCatch false id rw kw) := by
  rw [ownCatch_true]; exact h.caught hk hg (ownCatch_caught false id rw kw)

theorem MRel.msgCatch {rs rw : R Val} {ks kw : Val → St → R Val} (id1 id2 : Nat) (name : String) (vals : List (String × Val))
    (h : MRel rs rw) (hk : ∀ a t, rs = .ok (a, t) → MRel (ks a t) (kw a t)) (hg : ∀ a t, Grow t (kw a t)) :
    MRel (_root_.msgCatch true id1 id2 name vals rs ks) (_root_.msgCatch false id1 id2 name vals rw kw) := by
  rw [msgCatch_true]; exact h.caught hk hg (msgCatch_caught false id1 id2 name vals rw kw)

def MG {α : Type} (s : St) (rs rw : R α) : Prop := MRel rs rw ∧ Grow s rw

theorem MG.refl {α : Type} {s : St} {r : R α} (h : Grow s r) : MG s r r := ⟨MRel.refl r, h⟩

theorem MG.ok {α : Type} (s : St) (a : α) : MG s (.ok (a, s) : R α) (.ok (a, s)) := MG.refl (Grow.refl s a)

theorem MG.err {α : Type} (s : St) (e : Err) : MG s (.error (e, s) : R α) (.error (e, s)) := MG.refl (Grow.err s e)

theorem MG.crash {α : Type} (s : St) (c m : String) : MG s (crash c m s : R α) (crash c m s) := MG.err s _

theorem MG.bind {α β : Type} {s : St} {rs rw : R α} {fs fw : α → St → R β} (h : MG s rs rw)
    (hf : ∀ a t, MG t (fs a t) (fw a t)) : MG s (rs.bind fs) (rw.bind fw) :=
  ⟨h.1.bind (fun a t _ => (hf a t).1) fun a t => (hf a t).2, h.2.bind fun a t _ => (hf a t).2⟩

theorem MG.caught {s : St} {rs rw q : R Val} {ks kw : Val → St → R Val} (h : MG s rs rw)
    (hk : ∀ a t, MG t (ks a t) (kw a t)) (hq : Caught false rw kw q) : MG s (rs.bind ks) q :=
  ⟨h.1.caught (fun a t _ => (hk a t).1) (fun a t => (hk a t).2) hq, h.2.caught (fun a t _ => (hk a t).2) hq⟩

theorem MG.of_emitM {α : Type} {s : St} (m : MEvent) {rs rw : R α} (h : MG (emitM m s) rs rw) : MG s rs rw :=
  ⟨h.1, Grow.of_emit _ h.2⟩

/-! ## every step, both modes -/

theorem readPrim_mg (p : Prim) (path : Path) (s : St) : MG s (readPrim true p path s) (readPrim false p path s) := by
  unfold readPrim
  refine (MG.refl (bytesParsed_grow path p.size s)).bind fun _ t => (MG.refl (take_grow p.size t)).bind fun bs t2 => ?_
  simp only []
  split
  · exact MG.refl (Grow.of_emit _ (Grow.refl _ _))
  · simp only [if_true, Bool.false_eq_true, if_false]
    refine ⟨Or.inr ⟨rfl, Or.inr ⟨⟨path, .named p.name false, some (p.ofBytes bs), p.name, p.size⟩, p.ofBytes bs, [], ?_, rfl, rfl⟩⟩,
      Grow.of_emit _ (Grow.of_emit _ (Grow.refl _ _))⟩
    simp [stOf, emitW, emitM, emit]

theorem readPrim_mrel (p : Prim) (path : Path) (s : St) : MRel (readPrim true p path s) (readPrim false p path s) :=
  (readPrim_mg p path s).1

theorem anticipateM_mg (vpath : Path) (v id : Nat) (s : St) :
    MG s (anticipateM true vpath v id s) (anticipateM false vpath v id s) := by
  unfold anticipateM
  split
  · exact MG.ok s _
  · rename_i e he
    simp only [if_true, Bool.false_eq_true, if_false]
    obtain ⟨_, _, _, _, _, rfl⟩ := anticipate_some he
    exact ⟨Or.inr ⟨rfl, FirstW.emitW _ s⟩, Grow.of_emit _ (Grow.refl _ _)⟩

theorem openRegion_mg (id : Nat) (cpath : Path) (n : Nat) (s : St) :
    MG s (openRegion true id cpath n s) (openRegion false id cpath n s) := by
  unfold openRegion
  exact (anticipateM_mg cpath n id s).bind fun _ t => MG.refl (Grow.of_quiet rfl)

theorem setListed_mg (id : Nat) (cpath : Path) (n : Nat) (s : St) :
    MG s (setListed true id cpath n s) (setListed false id cpath n s) := by
  unfold setListed
  exact anticipateM_mg cpath n id _

theorem assertDoneSC_mg (c : SC) (s : St) : MG s (assertDoneSC true c s) (assertDoneSC false c s) := by
  refine ⟨?_, assertDoneSC_grow false c s⟩
  unfold assertDoneSC
  cases hm : c.max with
  | none => exact MRel.refl _
  | some m =>
    simp only []
    by_cases heq : c.already = m
    · simp only [heq, if_true]; exact MRel.refl _
    · simp only [heq, if_false, if_true, Bool.false_eq_true]
      refine Or.inr ⟨rfl, ?_⟩
      split
      · exact FirstW.grow (FirstW.emitW _ s) ((bytesParsed_grow _ _ _).bind fun _ t _ => consume_grow _ t)
      · exact FirstW.emitW _ s

theorem assertDone_mg (id : Nat) (s : St) : MG s (assertDone true id s) (assertDone false id s) := by
  unfold assertDone
  split
  · exact MG.crash s _ _
  · exact assertDoneSC_mg _ _

theorem repeatDec_mg (fs fw : Path → St → R Val) (h : ∀ p s, MG s (fs p s) (fw p s)) (path : Path) :
    ∀ (n i : Nat) (s : St), MG s (repeatDec fs path n i s) (repeatDec fw path n i s)
  | 0, _, s => MG.ok s _
  | n + 1, i, s => (h _ s).bind fun _ t => (repeatDec_mg fs fw h path n (i + 1) t).bind fun _ t2 => MG.ok t2 _

theorem listOf_mg (fs fw : Path → St → R Val) (h : ∀ p s, MG s (fs p s) (fw p s)) (path : Path) (tn : String) (n : Nat) (s : St) :
    MG s ((repeatDec fs path n 0 (emitM ⟨path, .listOf tn, none, "", 0⟩ s)).bind fun vs s => .ok (Val.list vs, s))
      ((repeatDec fw path n 0 (emitM ⟨path, .listOf tn, none, "", 0⟩ s)).bind fun vs s => .ok (Val.list vs, s)) :=
  MG.of_emitM _ ((repeatDec_mg fs fw h path n 0 _).bind fun _ t => MG.ok t _)

theorem readListArm_mg (elem : Prim) (n : Option Nat) (path : Path) (s : St) :
    MG s (readListArm true elem n path s) (readListArm false elem n path s) := by
  unfold readListArm
  cases n with
  | none => exact MG.crash s _ _
  | some k => exact listOf_mg _ _ (readPrim_mg elem) path elem.name k s

theorem fieldWith_mg (ds dw : Path → Option Int → St → R Val) (h : ∀ p sel s, MG s (ds p sel s) (dw p sel s))
    (tname : String) (kind : FKind) (fpath : Path) (vals : List (String × Val)) (s : St) :
    MG s (decodeFieldWith ds tname kind fpath vals s) (decodeFieldWith dw tname kind fpath vals s) := by
  cases kind with
  | plain => exact h _ _ _
  | selected sel =>
    simp only [decodeFieldWith]
    split
    · exact MG.crash s _ _
    · exact h _ _ _
  | counted =>
    simp only [decodeFieldWith]
    split
    · exact MG.crash s _ _
    · exact listOf_mg _ _ (fun p s => h p none s) fpath tname _ s

mutual
theorem decode_mg : (t : Ty) → ∀ (path : Path) (sel : Option Int) (s : St),
    MG s (decode true t path sel s) (decode false t path sel s)
  | .prim p, path, _, s => by simp only [decode]; exact readPrim_mg p path s
  | .struct name _ fs, path, _, s => by
    simp only [decode]
    exact MG.of_emitM _ ((fields_mg fs path [] _).bind fun _ t => MG.ok t _)
  | .tpm2bBytes name szName szP bufName elem, path, _, s => by
    simp only [decode]
    refine MG.of_emitM _ ((readPrim_mg szP _ _).bind fun nv s1 => ?_)
    split
    · exact MG.crash s1 _ _
    · exact (openRegion_mg _ _ _ s1).bind fun _ s2 => (listOf_mg _ _ (readPrim_mg elem) _ elem.name _ s2).bind fun _ s3 =>
        (assertDone_mg _ s3).bind fun _ s4 => MG.ok s4 _
  | .tpm2b name szName szP bufName body, path, _, s => by
    simp only [decode, ownCatch_true]
    refine MG.of_emitM _ ((readPrim_mg szP _ _).bind fun nv s1 => ?_)
    split
    · exact MG.crash s1 _ _
    · refine (openRegion_mg _ _ _ s1).bind fun _ s2 => ?_
      split
      · exact MG.of_emitM _ ((assertDone_mg _ _).bind fun _ s4 => MG.ok s4 _)
      · exact (decode_mg body _ none s2).caught (fun _ s3 => (assertDone_mg _ s3).bind fun _ s4 => MG.ok s4 _)
          (ownCatch_caught ..)
  | .union name arms, path, sel, s => by
    simp only [decode]
    refine MG.of_emitM ⟨path, .named name false, none, "", 0⟩ ?_
    split
    · split <;> exact MG.err _ _
    · exact arm_mg arms name _ path _
  | .bad r, _, _, s => by simp only [decode]; exact MG.crash s _ _

theorem arm_mg : (arms : Arms) → ∀ (un want : String) (path : Path) (s : St),
    MG s (decodeArm true arms un want path s) (decodeArm false arms un want path s)
  | .nil, _, _, _, s => by simp only [decodeArm]; exact MG.crash s _ _
  | .consNone an key rest, un, want, path, s => by
    simp only [decodeArm]
    split
    · exact MG.ok s _
    · exact arm_mg rest un want path s
  | .cons an key t rest, un, want, path, s => by
    simp only [decodeArm]
    split
    · exact (decode_mg t _ none s).bind fun _ t' => MG.ok t' _
    · exact arm_mg rest un want path s
  | .consBytes an key elem n rest, un, want, path, s => by
    simp only [decodeArm]
    split
    · exact (readListArm_mg elem n _ s).bind fun _ t' => MG.ok t' _
    · exact arm_mg rest un want path s

theorem fields_mg : (fs : Fields) → ∀ (path : Path) (vals : List (String × Val)) (s : St),
    MG s (decodeFields true fs path vals s) (decodeFields false fs path vals s)
  | .nil, _, _, s => by simp only [decodeFields]; exact MG.ok s _
  | .cons fname kind t rest, path, vals, s => by
    simp only [decodeFields]
    exact (fieldWith_mg _ _ (fun p sel s => decode_mg t p sel s) t.name kind _ vals s).bind fun _ t' => fields_mg rest path _ t'
end

theorem decode_mrel : (t : Ty) → ∀ (path : Path) (sel : Option Int) (s : St),
    MRel (decode true t path sel s) (decode false t path sel s) :=
  fun t path sel s => (decode_mg t path sel s).1

theorem arm_mrel : (arms : Arms) → ∀ (un want : String) (path : Path) (s : St),
    MRel (decodeArm true arms un want path s) (decodeArm false arms un want path s) :=
  fun arms un want path s => (arm_mg arms un want path s).1

theorem decodeArea_mg (tb : MsgTables) (enc : Bool) (t : Ty) (path : Path) (s : St) :
    MG s (decodeArea true tb enc t path s) (decodeArea false tb enc t path s) := by
  unfold decodeArea
  split
  · split
    · exact decode_mg t path none s
    · exact MG.of_emitM _ ((fields_mg _ path [] _).bind fun _ t' => MG.ok t' _)
  · exact decode_mg t path none s

theorem sizedLoop_mg (t : Ty) (path : Path) (cid : Nat) : ∀ (fuel i : Nat) (acc : List Val) (s : St),
    MG s (sizedLoop true t path cid fuel i acc s) (sizedLoop false t path cid fuel i acc s)
  | 0, _, _, s => MG.crash s _ _
  | fuel + 1, i, acc, s => by
    unfold sizedLoop
    split
    · exact MG.crash s _ _
    · split
      · exact MG.crash s _ _
      · split
        · rw [ownCatch_true]
          exact (decode_mg t _ none s).caught (fun _ t' => sizedLoop_mg t path cid fuel _ _ t') (ownCatch_caught ..)
        · exact (assertDoneSC_mg _ _).bind fun _ t' => MG.ok t' _

theorem decodeSized_mg (t : Ty) (path : Path) (cid : Nat) (s : St) :
    MG s (decodeSized true t path cid s) (decodeSized false t path cid s) :=
  MG.of_emitM ⟨path, .listOf t.name, none, "", 0⟩ (sizedLoop_mg t path cid _ 0 [] _)

theorem mrel_runRel (tb : MsgTables) (path : Path) (own : Nat) (name : String) :
    RunRel ⟨true, tb, path, own, name⟩ ⟨false, tb, path, own, name⟩ fun f f' => ∀ s, MG s (f s) (f' s) where
  eval _ := rfl
  pure _ s := MG.ok s _
  bind hf hg s := (hf s).bind fun a t => hg a t
  attempt vals _ _ _ _ hf hk s := by
    simp only [msgCatch_true]; exact (hf s).caught (fun a t => hk a t) (msgCatch_caught ..)
  check q s := MG.refl (Prog.run_inv ((grow_walkInv false tb).msg path own name) (.check q) s)
  leaf l s := by
    cases l <;> simp only [Leaf.run]
    case start => exact MG.refl (Grow.of_scs _ (Grow.of_emit _ (Grow.refl _ _)))
    case field => exact readPrim_mg ..
    case setOwn => exact setListed_mg ..
    case openInner => exact openRegion_mg ..
    case area =>
      split
      · exact MG.err ..
      · exact decodeArea_mg ..
    case sessions rsp => cases rsp <;> exact decodeSized_mg ..
    case done => exact assertDone_mg ..

theorem decodeCommand_mg (tb : MsgTables) (path : Path) (s0 : St) :
    MG s0 (decodeCommand true tb path s0) (decodeCommand false tb path s0) := by
  rw [decodeCommand_eq_run, decodeCommand_eq_run]; exact Prog.run_rel (mrel_runRel ..) _ s0

theorem decodeResponse_mg (tb : MsgTables) (cc : Option Int) (enc : Bool) (path : Path) (s0 : St) :
    MG s0 (decodeResponse true tb cc enc path s0) (decodeResponse false tb cc enc path s0) := by
  rw [decodeResponse_eq_run, decodeResponse_eq_run]; exact Prog.run_rel (mrel_runRel ..) _ s0

theorem decodeCommand_mrel (tb : MsgTables) (path : Path) (s0 : St) :
    MRel (decodeCommand true tb path s0) (decodeCommand false tb path s0) :=
  (decodeCommand_mg tb path s0).1

theorem decodeResponse_mrel (tb : MsgTables) (cc : Option Int) (enc : Bool) (path : Path) (s0 : St) :
    MRel (decodeResponse true tb cc enc path s0) (decodeResponse false tb cc enc path s0) :=
  (decodeResponse_mg tb cc enc path s0).1

theorem decodeStream_mrel (tb : MsgTables) (path : Path) : ∀ (fuel : Nat) (s : St),
    MRel (decodeStream true tb path fuel s) (decodeStream false tb path fuel s) :=
  fun fuel s => ((mrel_runRel tb path 0 "").stream (fun _ => rfl)
    (fun _ _ _ hf s => by
      dsimp only
      split
      · exact MG.refl (Grow.of_emit _ (Grow.refl _ _))
      · exact hf s)
    (decodeCommand_mg tb path) (fun cc enc => decodeResponse_mg tb cc enc path) fuel s).1

theorem runWalker_mrel (tb : MsgTables) (top : Top) (x : List Byte) :
    MRel (runWalker true tb top x) (runWalker false tb top x) := by
  unfold runWalker
  cases top with
  | ty t => exact decode_mrel t rootPath none _
  | command => exact decodeCommand_mrel tb rootPath _
  | response cc enc => exact decodeResponse_mrel tb cc enc rootPath _
  | stream => exact decodeStream_mrel tb rootPath _ _

/-! ## strict mode never emits a warning -/

def Event.isMarshal : Event → Bool
  | .marshal _ => true
  | .warning _ => false

def NW {α : Type} (s : St) (r : R α) : Prop :=
  ∃ new, (stOf r).out = s.out ++ new ∧ ∀ ke ∈ new, ke.2.isMarshal = true

theorem NW.quiet {α : Type} {s : St} {r : R α} (h : (stOf r).out = s.out) : NW s r :=
  ⟨[], by simp [h], by intro ke hke; cases hke⟩

theorem NW.bind {α β : Type} {s : St} {r : R α} {f : α → St → R β} (h : NW s r)
    (hf : ∀ a t, r = .ok (a, t) → NW t (f a t)) : NW s (r.bind f) := by
  cases r with
  | error e => obtain ⟨e, t⟩ := e; exact h
  | ok at' =>
    obtain ⟨a, t⟩ := at'
    obtain ⟨n1, h1, m1⟩ := h
    obtain ⟨n2, h2, m2⟩ := hf a t rfl
    refine ⟨n1 ++ n2, by simp only [R.bind_ok]; rw [h2]; simp only [stOf] at h1; rw [h1, List.append_assoc], ?_⟩
    intro ke hke
    simp only [List.mem_append] at hke
    rcases hke with hke | hke
    · exact m1 ke hke
    · exact m2 ke hke

theorem NW.of_emitM {α : Type} {s : St} (e : MEvent) {r : R α} (h : NW (emitM e s) r) : NW s r := by
  obtain ⟨n, h1, m⟩ := h
  refine ⟨(s.pos, .marshal e) :: n, by rw [h1]; simp [emitM, emit], ?_⟩
  intro ke hke
  simp only [List.mem_cons] at hke
  rcases hke with rfl | hke
  · rfl
  · exact m ke hke

theorem NW.of_scs {α : Type} {s : St} (scs : List SC) {r : R α} (h : NW { s with scs := scs } r) : NW s r := h

theorem readPrim_nw (p : Prim) (path : Path) (s : St) : NW s (readPrim true p path s) := by
  unfold readPrim
  refine (NW.quiet (bytesParsed_out _ _ s)).bind fun _ t _ => (NW.quiet (take_out _ t)).bind fun bs t2 _ => ?_
  simp only [if_true]
  split
  · exact NW.of_emitM _ (NW.quiet rfl)
  · exact NW.quiet rfl

theorem anticipateM_nw (vpath : Path) (v id : Nat) (s : St) : NW s (anticipateM true vpath v id s) := by
  unfold anticipateM
  split
  · exact NW.quiet rfl
  · simp only [if_true]; exact NW.quiet rfl

theorem openRegion_nw (id : Nat) (cpath : Path) (n : Nat) (s : St) : NW s (openRegion true id cpath n s) := by
  unfold openRegion
  exact (anticipateM_nw _ _ _ s).bind fun _ t _ => NW.quiet rfl

theorem setListed_nw (id : Nat) (cpath : Path) (n : Nat) (s : St) : NW s (setListed true id cpath n s) := by
  unfold setListed
  exact NW.of_scs _ (anticipateM_nw _ _ _ _)

theorem assertDoneSC_nw (c : SC) (s : St) : NW s (assertDoneSC true c s) := by
  unfold assertDoneSC
  split
  · exact NW.quiet rfl
  · split
    · exact NW.quiet rfl
    · simp only [if_true]; exact NW.quiet rfl

theorem nw_stepInv : StepInv true @NW where
  pure _ _ := NW.quiet rfl
  crash _ _ _ := NW.quiet rfl
  reject _ _ _ := NW.quiet rfl
  bind := NW.bind
  emit m _ h := NW.of_emitM m h
  scs l h := NW.of_scs l h
  caught hr hk hq := hq.strict ▸ hr.bind hk
  readPrim p _ := readPrim_nw p
  openRegion := openRegion_nw
  setListed := setListed_nw
  assertDoneSC := assertDoneSC_nw

theorem arm_nw : (arms : Arms) → ∀ (un want : String) (path : Path) (s : St), NW s (decodeArm true arms un want path s) :=
  fun arms => nw_stepInv.arm arms arms.pk_true

theorem runWalker_nw (tb : MsgTables) (top : Top) (x : List Byte) :
    ∀ ke ∈ (stOf (runWalker true tb top x)).out, ke.2.isMarshal = true := by
  obtain ⟨new, h1, m⟩ := nw_stepInv.runWalker tb tb.pk_true top (fun t _ => t.pk_true) x
  rw [h1]; simpa [initSt] using m
