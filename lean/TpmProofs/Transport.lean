import TpmProofs.Walk
/-!
# A run seen from elsewhere: further into a longer input, below another root

`T : Tp` moves a state: the remaining input is extended by `T.y`, the position and every region id move by `T.d`, the trace is
re-stamped and put behind `T.pre`, and every path — in the trace, in the regions, in the errors' details — is mapped by `T.f`.
The walkers only ever compare region ids with each other and only ever extend paths, so, for every walker in either mode,

    T.Rel (decode abort t (T.f path) sel (T.st s)) (decode abort t path sel s)

the run from the moved state is the moved run — unless `T.y` is non-empty and the run ends for lack of input (`ND`: with more
input behind it, it would go on), and provided `T.f` leaves alone what is appended to `path` (`Ext`).
-/

section
variable {f : SC → SC} {g : Nat → Nat} (hg : ∀ a b, g a = g b → a = b) (hf : ∀ c, (f c).id = g c.id)
include hg hf

theorem findSC_map_ids (id : Nat) (scs : List SC) : findSC (g id) (scs.map f) = (findSC id scs).map f := by
  unfold findSC
  induction scs with
  | nil => rfl
  | cons c rest ih =>
    simp only [List.map_cons, List.find?_cons, hf, decide_eq_decide.mpr ⟨hg _ _, congrArg g⟩]
    split
    · rfl
    · exact ih

theorem removeSC_map_ids (id : Nat) (scs : List SC) : removeSC (g id) (scs.map f) = (removeSC id scs).map f := by
  unfold removeSC
  induction scs with
  | nil => rfl
  | cons c rest ih =>
    simp only [List.map_cons, List.filter_cons, hf, decide_eq_decide.mpr ⟨hg _ _, congrArg g⟩]
    split
    · simp only [List.map_cons, ih]
    · exact ih

theorem sizedFuel_map_ids (hm : ∀ c, (f c).max = c.max) (ha : ∀ c, (f c).already = c.already) (id : Nat) (scs : List SC) :
    sizedFuel (g id) (scs.map f) = sizedFuel id scs := by
  unfold sizedFuel
  rw [findSC_map_ids hg hf]
  cases findSC id scs with
  | none => rfl
  | some c => simp only [Option.map_some, hm, ha]
end

section
variable (y : List Byte)

def ND {α : Type} (r : R α) : Prop := y = [] ∨ ∀ t, r ≠ .error (.depleted, t)

variable {y}

theorem ND.of_depleted {α β : Type} {r : R α} {r' : R β} (h : ND y r') (hd : ∀ t, r = .error (.depleted, t) → r' = .error (.depleted, t)) :
    ND y r :=
  Or.imp_right (fun h t hr => h t (hd t hr)) h
end

def Ext (f : Path → Path) (p : Path) : Prop := ∀ q, f (p ++ q) = f p ++ q

theorem elemPath_concat (p : Path) (n : PathNode) (i : Nat) : elemPath (p ++ [n]) i = p ++ [⟨n.name, some i⟩] := by
  simp [elemPath]

section
variable {f : Path → Path} {p : Path} (h : Ext f p)
include h

theorem Ext.append (q : Path) : Ext f (p ++ q) := fun q' => by
  rw [List.append_assoc, h, h, List.append_assoc]

theorem Ext.elem (n : PathNode) (i : Nat) : f (elemPath (p ++ [n]) i) = elemPath (f (p ++ [n])) i := by
  rw [elemPath_concat, h, h, elemPath_concat]

theorem Ext.elemPath (n : PathNode) (i : Nat) : Ext f (elemPath (p ++ [n]) i) := by
  rw [elemPath_concat]; exact h.append _
end

structure Tp where
  f : Path → Path
  d : Nat
  y : List Byte
  pre : List (Nat × Event)

namespace Tp
variable (T : Tp)

def err : Err → Err
  | .value p ty x => .value (T.f p) ty x
  | .valueNone p ty => .valueNone (T.f p) ty
  | .exceeded cid cp m a v b => .exceeded (cid + T.d) (T.f cp) m a (T.f v) b
  | .subceeded cid cp m a => .subceeded (cid + T.d) (T.f cp) m a
  | .anticipated cid cp m a v x b => .anticipated (cid + T.d) (T.f cp) m a (T.f v) x b
  | .depleted => .depleted
  | .crash c s => .crash c s

def ev : Event → Event
  | .marshal m => .marshal { m with path := T.f m.path }
  | .warning e => .warning (T.err e)

def sc (c : SC) : SC := ⟨c.id + T.d, T.f c.path, c.already, c.max⟩

def st (s : St) : St :=
  ⟨s.inp ++ T.y, s.pos + T.d, T.pre ++ s.out.map fun ke => (ke.1 + T.d, T.ev ke.2), s.scs.map T.sc⟩

def r {α : Type} : R α → R α
  | .ok (a, s) => .ok (a, T.st s)
  | .error (e, s) => .error (T.err e, T.st s)

/-- `r'` is the run `r` moved, unless `r` ends for lack of input -/
def Rel {α : Type} (r' r : R α) : Prop := ND T.y r → r' = T.r r

variable {T}

theorem Rel.bind {α β : Type} {r r' : R α} {k k' : α → St → R β} (hr : T.Rel r' r) (hk : ∀ a t, T.Rel (k' a (T.st t)) (k a t)) :
    T.Rel (r'.bind k') (r.bind k) := by
  intro hnd
  rw [hr (hnd.of_depleted fun t h => by rw [h]; rfl)]
  cases r with
  | ok at' => obtain ⟨a, t⟩ := at'; exact hk a t hnd
  | error et => obtain ⟨e, t⟩ := et; rfl

@[simp] theorem st_pos (s : St) : (T.st s).pos = s.pos + T.d := rfl
@[simp] theorem st_inp (s : St) : (T.st s).inp = s.inp ++ T.y := rfl
@[simp] theorem st_scs (s : St) : (T.st s).scs = s.scs.map T.sc := rfl

theorem st_emitM (path : Path) (tag : TyTag) (val : Option Int) (cls : String) (w : Nat) (s : St) :
    emitM ⟨T.f path, tag, val, cls, w⟩ (T.st s) = T.st (emitM ⟨path, tag, val, cls, w⟩ s) := by
  simp [emitM, emit, st, ev, List.append_assoc]

theorem st_emitW (e : Err) (s : St) : emitW (T.err e) (T.st s) = T.st (emitW e s) := by
  simp [emitW, emit, st, ev, List.append_assoc]

theorem take_rel (n : Nat) (s : St) : T.Rel (take n (T.st s)) (take n s) := by
  intro h
  unfold take at h ⊢
  by_cases hl : s.inp.length < n
  · rcases h with hy | h
    · have hl' : (T.st s).inp.length < n := by simpa [hy] using hl
      rw [if_pos hl, if_pos hl']
      simp [Tp.r, st, err, hy, Nat.add_right_comm]
    · exfalso; rw [if_pos hl] at h; exact h _ rfl
  · have hl' : ¬ (T.st s).inp.length < n := by simp only [st_inp, List.length_append]; omega
    rw [if_neg hl, if_neg hl']
    simp [Tp.r, st, List.take_append_of_le_length, List.drop_append_of_le_length, Nat.le_of_not_lt hl, Nat.add_right_comm]

theorem consume_rel (n : Nat) (s : St) : T.Rel (consume n (T.st s)) (consume n s) :=
  (take_rel n s).bind fun _ _ _ => rfl

theorem sc_over (c : SC) (n : Nat) : (T.sc c).over n = c.over n := rfl

theorem bpGo_rel (path : Path) (size : Nat) : ∀ (todo done : List SC) (s : St),
    T.Rel (bpGo (T.f path) size (done.map T.sc) (todo.map T.sc) (T.st s)) (bpGo path size done todo s) := by
  intro todo
  induction todo with
  | nil => intro done s _; simp only [List.map_nil, bpGo]; rfl
  | cons c rest ih =>
    intro done s
    simp only [List.map_cons]
    unfold bpGo
    rw [sc_over]
    split
    · simp only [show (T.sc c).max = c.max from rfl, show (T.sc c).already = c.already from rfl,
        show (T.sc c).id = c.id + T.d from rfl, show (T.sc c).path = T.f c.path from rfl]
      have hs : (⟨(T.st s).inp, (T.st s).pos, (T.st s).out,
            (done.map T.sc).map fun x => ⟨x.id, x.path, x.already - (size - (c.max.getD 0 - c.already)), x.max⟩⟩ : St) =
          T.st ⟨s.inp, s.pos, s.out, done.map fun x => ⟨x.id, x.path, x.already - (size - (c.max.getD 0 - c.already)), x.max⟩⟩ := by
        simp [st, sc, List.map_map, Function.comp_def]
      rw [hs]
      exact (consume_rel _ _).bind fun _ _ _ => rfl
    · have := ih (done ++ [c.bump size]) s
      simpa [List.map_append, sc, SC.bump] using this

theorem bytesParsed_rel (path : Path) (size : Nat) (s : St) : T.Rel (bytesParsed (T.f path) size (T.st s)) (bytesParsed path size s) := by
  unfold bytesParsed
  have := bpGo_rel (T := T) path size s.scs [] s
  simpa using this

theorem readPrim_rel (abort : Bool) (p : Prim) (path : Path) (s : St) :
    T.Rel (readPrim abort p (T.f path) (T.st s)) (readPrim abort p path s) := by
  unfold readPrim
  refine (bytesParsed_rel path p.size s).bind fun _ t => (take_rel p.size t).bind fun bs t2 _ => ?_
  simp only []
  split
  · simp only [Tp.r]; rw [← st_emitM]
  · split
    · rfl
    · simp only [Tp.r]
      rw [← st_emitW, ← st_emitM]
      rfl

theorem anticipate_sc (vpath : Path) (v id : Nat) : ∀ (scs : List SC),
    anticipate (T.f vpath) v (id + T.d) (scs.map T.sc) = (anticipate vpath v id scs).map T.err := by
  intro scs
  induction scs with
  | nil => rfl
  | cons c rest ih =>
    simp only [List.map_cons]
    unfold anticipate
    simp only [show (T.sc c).id = c.id + T.d from rfl, sc_over, Nat.add_right_cancel_iff]
    split
    · exact ih
    · split
      · rfl
      · exact ih

theorem anticipateM_st (abort : Bool) (vpath : Path) (v id : Nat) (s : St) :
    anticipateM abort (T.f vpath) v (id + T.d) (T.st s) = T.r (anticipateM abort vpath v id s) := by
  unfold anticipateM
  simp only [st_scs, anticipate_sc]
  cases anticipate vpath v id s.scs with
  | none => rfl
  | some e =>
    simp only [Option.map_some]
    split
    · rfl
    · simp only [Tp.r]; rw [← st_emitW]

theorem openRegion_st (abort : Bool) (id : Nat) (cpath : Path) (n : Nat) (s : St) :
    openRegion abort (id + T.d) (T.f cpath) n (T.st s) = T.r (openRegion abort id cpath n s) := by
  unfold openRegion
  rw [anticipateM_st]
  cases anticipateM abort cpath n id s with
  | ok ut => obtain ⟨_, t⟩ := ut; simp [Tp.r, st, sc, R.bind]
  | error et => rfl

theorem setListed_st (abort : Bool) (id : Nat) (cpath : Path) (n : Nat) (s : St) :
    setListed abort (id + T.d) (T.f cpath) n (T.st s) = T.r (setListed abort id cpath n s) := by
  unfold setListed
  simp only []
  have hs : ({ T.st s with scs := (T.st s).scs.map fun c => if c.id = id + T.d then { c with path := T.f cpath, max := some n } else c } : St) =
      T.st { s with scs := s.scs.map fun c => if c.id = id then { c with path := cpath, max := some n } else c } := by
    simp only [st, List.map_map]
    congr 1
    apply List.map_congr_left
    intro c _
    simp only [Function.comp, sc, Nat.add_right_cancel_iff]
    by_cases hc : c.id = id <;> simp [hc]
  rw [hs]
  exact anticipateM_st abort cpath n id _

theorem findSC_sc (id : Nat) (scs : List SC) : findSC (id + T.d) (scs.map T.sc) = (findSC id scs).map T.sc :=
  findSC_map_ids (f := T.sc) (g := (· + T.d)) (fun _ _ => Nat.add_right_cancel) (fun _ => rfl) id scs

theorem removeSC_sc (id : Nat) (scs : List SC) : removeSC (id + T.d) (scs.map T.sc) = (removeSC id scs).map T.sc :=
  removeSC_map_ids (f := T.sc) (g := (· + T.d)) (fun _ _ => Nat.add_right_cancel) (fun _ => rfl) id scs

theorem sizedFuel_sc (id : Nat) (scs : List SC) : sizedFuel (id + T.d) (scs.map T.sc) = sizedFuel id scs :=
  sizedFuel_map_ids (f := T.sc) (g := (· + T.d)) (fun _ _ => Nat.add_right_cancel) (fun _ => rfl) (fun _ => rfl) (fun _ => rfl) id scs

theorem assertDoneSC_rel (abort : Bool) (c : SC) (s : St) : T.Rel (assertDoneSC abort (T.sc c) (T.st s)) (assertDoneSC abort c s) := by
  unfold assertDoneSC
  simp only [show (T.sc c).max = c.max from rfl, show (T.sc c).already = c.already from rfl,
    show (T.sc c).id = c.id + T.d from rfl, show (T.sc c).path = T.f c.path from rfl]
  cases c.max with
  | none => exact fun _ => rfl
  | some m =>
    simp only []
    split
    · exact fun _ => rfl
    · split
      · exact fun _ => rfl
      · rw [show emitW (Err.subceeded (c.id + T.d) (T.f c.path) m c.already) (T.st s) = T.st (emitW (.subceeded c.id c.path m c.already) s) from
          st_emitW (.subceeded c.id c.path m c.already) s]
        split
        · exact (bytesParsed_rel _ _ _).bind fun _ t => consume_rel _ t
        · exact fun _ => rfl

theorem assertDone_rel (abort : Bool) (id : Nat) (s : St) : T.Rel (assertDone abort (id + T.d) (T.st s)) (assertDone abort id s) := by
  unfold assertDone
  simp only [st_scs, findSC_sc, removeSC_sc]
  cases findSC id s.scs with
  | none => exact fun _ => rfl
  | some c =>
    simp only [Option.map_some]
    exact assertDoneSC_rel abort c { s with scs := removeSC id s.scs }

theorem bne_add (a b d : Nat) : (a + d != b + d) = (a != b) := by
  rw [Bool.eq_iff_iff]; simp

theorem ownCatch_rel (abort : Bool) (id : Nat) {r r' : R Val} {k k' : Val → St → R Val} (hr : T.Rel r' r)
    (hk : ∀ a t, T.Rel (k' a (T.st t)) (k a t)) : T.Rel (ownCatch abort (id + T.d) r' k') (ownCatch abort id r k) := by
  intro hnd
  rw [hr (hnd.of_depleted fun t h => by rw [h]; rfl)]
  cases r with
  | ok vs => obtain ⟨v, t⟩ := vs; exact hk v t hnd
  | error es =>
    obtain ⟨e, t⟩ := es
    cases e with
    | exceeded cid cp m a v b =>
      simp only [Tp.r, err, ownCatch, bne_add]
      split
      · rfl
      · dsimp only
        rw [← st_emitW]; rfl
    | _ => rfl

theorem repeatDec_rel {g : Path → St → R Val} {p p' : Path}
    (hg : ∀ i s, T.Rel (g (elemPath p' i) (T.st s)) (g (elemPath p i) s)) :
    ∀ (n i : Nat) (s : St), T.Rel (repeatDec g p' n i (T.st s)) (repeatDec g p n i s)
  | 0, _, _ => fun _ => rfl
  | n + 1, i, s => by
    unfold repeatDec
    exact (hg i s).bind fun _ t => (repeatDec_rel hg n (i + 1) t).bind fun _ _ _ => rfl

theorem readPrimList_rel (abort : Bool) (p : Prim) {q : Path} (hq : Ext T.f q) (nd : PathNode) (n : Nat) (s : St) :
    T.Rel (readPrimList abort p (T.f (q ++ [nd])) n (T.st s)) (readPrimList abort p (q ++ [nd]) n s) := by
  unfold readPrimList
  rw [st_emitM]
  exact (repeatDec_rel (g := readPrim abort p) (fun i s => by rw [← hq.elem]; exact readPrim_rel abort p _ s) n 0 _).bind
    fun _ _ _ => rfl

theorem readListArm_rel (abort : Bool) (elem : Prim) (n : Option Nat) {q : Path} (hq : Ext T.f q) (nd : PathNode) (s : St) :
    T.Rel (readListArm abort elem n (T.f (q ++ [nd])) (T.st s)) (readListArm abort elem n (q ++ [nd]) s) := by
  unfold readListArm
  cases n with
  | none => exact fun _ => rfl
  | some k => exact readPrimList_rel abort elem hq nd k s

theorem fieldWith_rel {dd : Path → Option Int → St → R Val} (p : Path)
    (hd0 : ∀ sel s, T.Rel (dd (T.f p) sel (T.st s)) (dd p sel s))
    (hdi : ∀ i s, T.Rel (dd (elemPath (T.f p) i) none (T.st s)) (dd (elemPath p i) none s))
    (tname : String) (kind : FKind) (vals : List (String × Val)) (s : St) :
    T.Rel (decodeFieldWith dd tname kind (T.f p) vals (T.st s)) (decodeFieldWith dd tname kind p vals s) := by
  cases kind with
  | plain => exact hd0 none s
  | selected sel =>
    simp only [decodeFieldWith]
    split
    · exact fun _ => rfl
    · exact hd0 _ s
  | counted =>
    simp only [decodeFieldWith]
    split
    · exact fun _ => rfl
    · rw [st_emitM]
      exact (repeatDec_rel (g := fun p s => dd p none s) hdi _ 0 _).bind fun _ _ _ => rfl

mutual
theorem decode_rel (abort : Bool) : (t : Ty) → ∀ (path : Path), Ext T.f path → ∀ (sel : Option Int) (s : St),
    T.Rel (decode abort t (T.f path) sel (T.st s)) (decode abort t path sel s)
  | .prim p, path, _, sel, s => by simp only [decode]; exact readPrim_rel abort p path s
  | .struct name isP fs, path, hp, sel, s => by
    simp only [decode]
    rw [st_emitM]
    exact (fields_rel abort fs path hp [] _).bind fun _ _ _ => rfl
  | .tpm2bBytes name szName szP bufName elem, path, hp, sel, s => by
    simp only [decode]
    rw [st_emitM, ← hp, ← hp]
    refine (readPrim_rel abort szP _ _).bind fun nv s1 => ?_
    simp only [st_pos]
    split
    · exact fun _ => rfl
    · refine Rel.bind (fun _ => openRegion_st ..) fun _ s2 => ?_
      refine (readPrimList_rel abort elem hp _ _ s2).bind fun bv s3 => ?_
      exact (assertDone_rel abort _ s3).bind fun _ _ _ => rfl
  | .tpm2b name szName szP bufName body, path, hp, sel, s => by
    simp only [decode]
    rw [st_emitM, ← hp, ← hp]
    refine (readPrim_rel abort szP _ _).bind fun nv s1 => ?_
    simp only [st_pos]
    split
    · exact fun _ => rfl
    · refine Rel.bind (fun _ => openRegion_st ..) fun _ s2 => ?_
      split
      · rw [st_emitM]
        exact (assertDone_rel abort _ _).bind fun _ _ _ => rfl
      · exact ownCatch_rel abort _ (decode_rel abort body _ (hp.append _) none s2) fun bv s3 =>
          (assertDone_rel abort _ s3).bind fun _ _ _ => rfl
  | .union name arms, path, hp, sel, s => by
    simp only [decode]
    rw [st_emitM]
    split
    · split <;> exact fun _ => rfl
    · exact arm_rel abort arms name _ path hp _
  | .bad r, path, _, sel, s => by simp only [decode]; exact fun _ => rfl

theorem arm_rel (abort : Bool) : (arms : Arms) → ∀ (un want : String) (path : Path), Ext T.f path → ∀ (s : St),
    T.Rel (decodeArm abort arms un want (T.f path) (T.st s)) (decodeArm abort arms un want path s)
  | .nil, un, want, path, _, s => by simp only [decodeArm]; exact fun _ => rfl
  | .consNone an key rest, un, want, path, hp, s => by
    simp only [decodeArm]
    split
    · exact fun _ => rfl
    · exact arm_rel abort rest un want path hp s
  | .cons an key t rest, un, want, path, hp, s => by
    simp only [decodeArm]
    split
    · rw [← hp]
      exact (decode_rel abort t _ (hp.append _) none s).bind fun _ _ _ => rfl
    · exact arm_rel abort rest un want path hp s
  | .consBytes an key elem n rest, un, want, path, hp, s => by
    simp only [decodeArm]
    split
    · rw [← hp]
      exact (readListArm_rel abort elem n hp _ s).bind fun _ _ _ => rfl
    · exact arm_rel abort rest un want path hp s

theorem fields_rel (abort : Bool) : (fs : Fields) → ∀ (path : Path), Ext T.f path → ∀ (vals : List (String × Val)) (s : St),
    T.Rel (decodeFields abort fs (T.f path) vals (T.st s)) (decodeFields abort fs path vals s)
  | .nil, path, _, vals, s => by simp only [decodeFields]; exact fun _ => rfl
  | .cons fname kind t rest, path, hp, vals, s => by
    simp only [decodeFields]
    rw [← hp]
    exact (fieldWith_rel _ (fun sel s => decode_rel abort t _ (hp.append _) sel s)
      (fun i s => by rw [← hp.elem]; exact decode_rel abort t _ (hp.elemPath _ i) none s) t.name kind vals s).bind
      fun v t' => fields_rel abort rest path hp _ t'
end

theorem decodeArea_rel (abort : Bool) (tb : MsgTables) (enc : Bool) (t : Ty) (path : Path) (hp : Ext T.f path) (s : St) :
    T.Rel (decodeArea abort tb enc t (T.f path) (T.st s)) (decodeArea abort tb enc t path s) := by
  unfold decodeArea
  split
  · split
    · exact decode_rel abort t path hp none s
    · rw [st_emitM]
      exact (fields_rel abort _ path hp [] _).bind fun _ _ _ => rfl
  · exact decode_rel abort t path hp none s

theorem sizedLoop_rel (abort : Bool) (t : Ty) {q : Path} (hq : Ext T.f q) (nd : PathNode) (cid : Nat) :
    ∀ (fuel i : Nat) (acc : List Val) (s : St),
    T.Rel (sizedLoop abort t (T.f (q ++ [nd])) (cid + T.d) fuel i acc (T.st s)) (sizedLoop abort t (q ++ [nd]) cid fuel i acc s) := by
  intro fuel
  induction fuel with
  | zero => intro i acc s _; rfl
  | succ n ih =>
    intro i acc s
    unfold sizedLoop
    simp only [st_scs, findSC_sc]
    cases findSC cid s.scs with
    | none => exact fun _ => rfl
    | some c =>
      simp only [Option.map_some, show (T.sc c).max = c.max from rfl, show (T.sc c).already = c.already from rfl]
      cases c.max with
      | none => exact fun _ => rfl
      | some m =>
        simp only []
        split
        · rw [← hq.elem]
          exact ownCatch_rel abort _ (decode_rel abort t _ (hq.elemPath nd i) none s) fun v s1 => ih _ _ s1
        · have hst : (⟨(T.st s).inp, (T.st s).pos, (T.st s).out, removeSC (cid + T.d) (List.map T.sc s.scs)⟩ : St) =
              T.st ⟨s.inp, s.pos, s.out, removeSC cid s.scs⟩ := by simp [st, removeSC_sc]
          rw [hst]
          exact (assertDoneSC_rel abort c _).bind fun _ _ _ => rfl

theorem decodeSized_rel (abort : Bool) (t : Ty) {q : Path} (hq : Ext T.f q) (nd : PathNode) (cid : Nat) (s : St) :
    T.Rel (decodeSized abort t (T.f (q ++ [nd])) (cid + T.d) (T.st s)) (decodeSized abort t (q ++ [nd]) cid s) := by
  unfold decodeSized
  simp only []
  rw [st_emitM]
  have hf : sizedFuel (cid + T.d) (T.st (emitM ⟨q ++ [nd], .listOf t.name, none, "", 0⟩ s)).scs =
      sizedFuel cid (emitM ⟨q ++ [nd], .listOf t.name, none, "", 0⟩ s).scs := sizedFuel_sc cid _
  rw [hf]
  exact sizedLoop_rel abort t hq nd cid _ 0 [] _

theorem msgCatch_rel {abort : Bool} {id1 id2 : Nat} {name : String} {vals : List (String × Val)} {r r' : R Val} {k k' : Val → St → R Val}
    (hr : T.Rel r' r) (hk : ∀ a t, T.Rel (k' a (T.st t)) (k a t)) :
    T.Rel (msgCatch abort (id1 + T.d) (id2 + T.d) name vals r' k') (msgCatch abort id1 id2 name vals r k) := by
  intro hnd
  rw [hr (hnd.of_depleted fun t h => by rw [h]; rfl)]
  cases r with
  | ok vs => obtain ⟨v, t⟩ := vs; exact hk v t hnd
  | error es =>
    obtain ⟨e, t⟩ := es
    cases e with
    | exceeded cid cp m a v b =>
      simp only [Tp.r, err, msgCatch, bne_add]
      split
      · rfl
      · dsimp only
        rw [← st_emitW]; rfl
    | _ => rfl

/-- `hnil`: the placeholder path of a message's region before its size field is read stays what it is -/
theorem runRel (hnil : T.f [] = []) (abort : Bool) (tb : MsgTables) {path : Path} (hp : Ext T.f path) (own : Nat) (name : String) :
    RunRel ⟨abort, tb, path, own, name⟩ ⟨abort, tb, T.f path, own + T.d, name⟩
      fun f f' => ∀ s, T.Rel (f' (T.st s)) (f s) where
  eval _ := rfl
  pure _ _ _ := rfl
  bind hf hg s := (hf s).bind hg
  attempt vals _ _ _ _ hf hk s := by
    rw [show own + T.d + 1 = own + 1 + T.d by omega]
    exact msgCatch_rel (hf s) hk
  check q s _ := by
    simp only [Check.run, st_scs, List.isEmpty_map]
    split <;> rfl
  leaf l s := by
    cases l <;> simp only [Leaf.run, Cfg.at, show own + T.d + 1 = own + 1 + T.d by omega, ← hp _]
    case start => intro _; simp [Tp.r, emitM, emit, st, ev, sc, hnil, List.append_assoc]
    case field => exact readPrim_rel _ _ _ _
    case setOwn => exact fun _ => setListed_st ..
    case openInner => exact fun _ => openRegion_st ..
    case area =>
      split
      · intro _; cases ‹Option Int› <;> simp only [Tp.r, err, Cfg.noLayout, ← hp _]
      · exact decodeArea_rel _ _ _ _ _ (hp.append _) _
    case sessions rsp => cases rsp <;> exact decodeSized_rel _ _ hp _ _ _
    case done inner => cases inner <;> exact assertDone_rel _ _ _

theorem decodeCommand_rel (hnil : T.f [] = []) (abort : Bool) (tb : MsgTables) {path : Path} (hp : Ext T.f path) (s0 : St) :
    T.Rel (decodeCommand abort tb (T.f path) (T.st s0)) (decodeCommand abort tb path s0) := by
  rw [decodeCommand_eq_run, decodeCommand_eq_run]; exact Prog.run_rel (runRel hnil abort tb hp ..) _ s0

theorem decodeResponse_rel (hnil : T.f [] = []) (abort : Bool) (tb : MsgTables) (cc : Option Int) (enc : Bool) {path : Path}
    (hp : Ext T.f path) (s0 : St) :
    T.Rel (decodeResponse abort tb cc enc (T.f path) (T.st s0)) (decodeResponse abort tb cc enc path s0) := by
  rw [decodeResponse_eq_run, decodeResponse_eq_run]; exact Prog.run_rel (runRel hnil abort tb hp ..) _ s0

/-- with nothing put behind the input, the stream loop sees its end where it did -/
theorem decodeStream_rel (hnil : T.f [] = []) (hy : T.y = []) (abort : Bool) (tb : MsgTables) {path : Path} (hp : Ext T.f path) :
    ∀ (fuel : Nat) (s : St), T.Rel (decodeStream abort tb (T.f path) fuel (T.st s)) (decodeStream abort tb path fuel s) :=
  (runRel hnil abort tb hp 0 "").stream (fun _ => rfl)
    (fun _ _ _ hf s => by
      simp only [st_inp, hy, List.append_nil]
      by_cases he : s.inp.isEmpty = true
      · simp only [he, ↓reduceIte]; rw [st_emitM]; exact fun _ => rfl
      · simp only [he]; exact hf s)
    (decodeCommand_rel hnil abort tb hp) (fun cc enc => decodeResponse_rel hnil abort tb cc enc hp)
end Tp
