import TpmProofs.TruncStreamPump
/-!
# A stream run that ends silently has shown exactly the bytes of its input (C02 for `CommandResponseStream`)

`c02_strict` is about outcome `.done`, which a stream run never has (a cleanly ending stream stops silently at the root event
of the next message); this is the corresponding statement for `.silent`.
-/

theorem any_split {α : Type} (q : α → Bool) : ∀ (l : List α), l.any q = true →
    ∃ pre a post, l = pre ++ a :: post ∧ q a = true ∧ l.takeWhile (fun x => !q x) = pre
  | [], h => by simp at h
  | a :: l, h => by
    by_cases ha : q a = true
    · exact ⟨[], a, l, rfl, ha, by simp [ha]⟩
    · have ha' : q a = false := by simpa using ha
      simp only [List.any_cons, ha', Bool.false_or] at h
      obtain ⟨pre, b, post, hl, hb, ht⟩ := any_split q l h
      exact ⟨a :: pre, b, post, by rw [hl]; rfl, hb, by simp [ha', ht]⟩

/-- **C02 for streams**: whenever a strict stream decode ends silently — the only way a stream run ends without an error — the
events it has shown re-encode to exactly the input, byte for byte (every input) -/
theorem silent_facts (tb : MsgTables) (x : List Byte)
    (h : (marshalRun true tb .stream x).outcome = .silent) :
    evsBytes (marshalRun true tb .stream x).evs = x := by
  obtain ⟨off, h2, -, h4, -⟩ := trace_acct tb .stream x
  -- the pump stopped: the trace has a root event stamped with the input length
  obtain ⟨pre, ⟨k, e⟩, post, hsplit, hq, htw⟩ := any_split _ _ ((stream_silent_iff true tb x).mp h)
  simp only [Bool.and_eq_true, beq_iff_eq] at hq
  change traceOf tb .stream x = _ at hsplit
  -- the root event carries no bytes, so its stamp counts the bytes of the events before it
  have hlen : (evBytes pre).length = x.length := by
    rw [hsplit, stamped_append] at h4
    have := h4.2.1
    rw [rootEllipsis_bytes hq.2] at this
    simp only [List.length_nil, Nat.add_zero, Nat.zero_add] at this
    rw [← this, hq.1]
  -- what was shown is `pre`
  rw [stream_evs, show beforeStop x.length (traceOf tb .stream x) = pre from htw, ← evBytes_eq]
  -- and `pre`'s bytes are a prefix of the input of the input's length
  rw [hsplit, evBytes_append, List.append_assoc, List.append_assoc] at h2
  have := congrArg (List.take (evBytes pre).length) h2
  rw [List.take_left' rfl, hlen, List.take_length] at this
  exact this.symm
