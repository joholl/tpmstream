import TpmModel.Pump
import TpmProofs.BE
import TpmProofs.Walk
import TpmProofs.State
/-!
# Byte accounting of every strict-mode run (any input, any layout)

`Acct s r`: whatever the walker did from state `s` to the state carried by result `r` (success *or*
error), the input it consumed is exactly: the bytes of the primitive events it emitted, in order,
followed — only if it ended in an error — by the bytes it consumed without emitting an event (the
offending field, or the skipped rest of an overrun region).  Moreover every event was emitted at the
moment when the bytes consumed so far were exactly the bytes of the events emitted so far (`Stamped`):
nothing is consumed ahead of an emission.

This is the common core of C02 (re-encoding reproduces the input), C13 (remaining bytes), C10 (look-ahead).

`Quiet` / `Skip`: a step that neither reads nor emits / that only reads.
-/

def Event.bytes : Event → List Byte
  | .marshal m => m.bytes
  | .warning _ => []

def evBytes (new : List (Nat × Event)) : List Byte := new.flatMap fun ke => ke.2.bytes

/-- each event carries the byte count reached after its own bytes, starting from `p` -/
def Stamped : Nat → List (Nat × Event) → Prop
  | _, [] => True
  | p, (k, e) :: rest => k = p + e.bytes.length ∧ Stamped k rest

def Acct {α : Type} (s : St) (r : R α) : Prop :=
  ∃ (new : List (Nat × Event)) (off : List Byte),
    (stOf r).out = s.out ++ new ∧
    s.inp = evBytes new ++ off ++ (stOf r).inp ∧
    (stOf r).pos = s.pos + (evBytes new).length + off.length ∧
    Stamped s.pos new ∧
    (isOkR r = true → off = [])

@[simp] theorem evBytes_nil : evBytes [] = [] := rfl
theorem evBytes_append (a b : List (Nat × Event)) : evBytes (a ++ b) = evBytes a ++ evBytes b := by
  simp [evBytes]

theorem stamped_append (p : Nat) (a b : List (Nat × Event)) :
    Stamped p (a ++ b) ↔ Stamped p a ∧ Stamped (p + (evBytes a).length) b := by
  induction a generalizing p with
  | nil => simp [Stamped]
  | cons x a ih =>
    obtain ⟨k, e⟩ := x
    simp only [List.cons_append, Stamped, ih, evBytes, List.flatMap_cons, List.length_append]
    constructor
    · rintro ⟨hk, ha, hb⟩
      refine ⟨⟨hk, ha⟩, ?_⟩
      rw [hk] at hb; simpa [evBytes, Nat.add_assoc] using hb
    · rintro ⟨⟨hk, ha⟩, hb⟩
      refine ⟨hk, ha, ?_⟩
      rw [hk]; simpa [evBytes, Nat.add_assoc] using hb

/-- a step that neither reads input nor emits: result state has the same `inp`, `pos`, `out` -/
def Quiet {α : Type} (s : St) (r : R α) : Prop :=
  (stOf r).inp = s.inp ∧ (stOf r).pos = s.pos ∧ (stOf r).out = s.out

theorem Quiet.acct {α : Type} {s : St} {r : R α} (h : Quiet s r) : Acct s r := by
  obtain ⟨h1, h2, h3⟩ := h
  exact ⟨[], [], by simp [h3], by simp [h1], by simp [h2], trivial, fun _ => rfl⟩

theorem Acct.bind {α β : Type} {s : St} {r : R α} {f : α → St → R β} (h : Acct s r)
    (hf : ∀ a s', r = .ok (a, s') → Acct s' (f a s')) : Acct s (r.bind f) := by
  cases r with
  | error e =>
    obtain ⟨e, s'⟩ := e
    obtain ⟨new, off, h1, h2, h3, h4, _⟩ := h
    exact ⟨new, off, h1, h2, h3, h4, by simp [R.bind, isOkR]⟩
  | ok as =>
    obtain ⟨a, s'⟩ := as
    obtain ⟨new, off, h1, h2, h3, h4, h5⟩ := h
    have hoff : off = [] := h5 rfl
    subst hoff
    simp only [stOf, List.append_nil, List.length_nil, Nat.add_zero] at h1 h2 h3
    obtain ⟨new2, off2, g1, g2, g3, g4, g5⟩ := hf a s' rfl
    refine ⟨new ++ new2, off2, ?_, ?_, ?_, ?_, ?_⟩
    · simp [R.bind, g1, h1, List.append_assoc]
    · simp [R.bind, h2, g2, evBytes_append, List.append_assoc]
    · simp only [R.bind, g3, h3, evBytes_append, List.length_append]; omega
    · rw [stamped_append]; refine ⟨h4, ?_⟩; rw [← h3]; exact g4
    · simpa [R.bind] using g5

theorem Acct.of_emit {α : Type} {s : St} (e : Event) (he : e.bytes = []) {r : R α} (h : Acct (emit e s) r) :
    Acct s r := by
  obtain ⟨new, off, h1, h2, h3, h4, h5⟩ := h
  refine ⟨(s.pos, e) :: new, off, ?_, ?_, ?_, ?_, h5⟩
  · simp [h1, emit]
  · simpa [evBytes, he, emit] using h2
  · simpa [evBytes, he, emit] using h3
  · simpa [Stamped, he, emit] using h4

theorem Acct.of_scs {α : Type} {s : St} (scs : List SC) {r : R α} (h : Acct { s with scs := scs } r) : Acct s r := h

theorem Acct.same {α : Type} {s : St} {r : R α} (h : stOf r = s) : Acct s r :=
  Quiet.acct (h ▸ ⟨rfl, rfl, rfl⟩)

theorem take_out (n : Nat) (s : St) : (stOf (take n s)).out = s.out := by
  unfold take; split <;> rfl

theorem consume_out (n : Nat) (s : St) : (stOf (consume n s)).out = s.out := by
  rw [consume_eq]; split <;> rfl

theorem bpGo_out (path : Path) (size : Nat) (todo done : List SC) (s : St) : (stOf (bpGo path size done todo s)).out = s.out := by
  rcases bpGo_cases path size todo done with h | ⟨_, _, _, _, _, h⟩ <;> rw [h]
  · rfl
  · rw [consume_eq]; split <;> rfl

theorem bytesParsed_out (path : Path) (size : Nat) (s : St) : (stOf (bytesParsed path size s)).out = s.out :=
  bpGo_out path size s.scs [] s

/-! ### consumption without an event only ever precedes an error -/

/-- `Skip s r`: `r`'s state has consumed some bytes `off` from `s` without emitting anything -/
def Skip {α : Type} (s : St) (r : R α) : Prop :=
  ∃ off, (stOf r).out = s.out ∧ s.inp = off ++ (stOf r).inp ∧ (stOf r).pos = s.pos + off.length

theorem take_skip (n : Nat) (s : St) : Skip s (take n s) := by
  unfold take
  split
  · exact ⟨s.inp, rfl, by simp [stOf], by simp [stOf]⟩
  · rename_i h
    refine ⟨s.inp.take n, rfl, by simp [stOf], ?_⟩
    simp only [stOf, List.length_take]; omega

theorem consume_skip (n : Nat) (s : St) : Skip s (consume n s) := by
  unfold consume
  obtain ⟨off, h1, h2, h3⟩ := take_skip n s
  cases ht : take n s with
  | error e => rw [ht] at h1 h2 h3; exact ⟨off, h1, h2, h3⟩
  | ok as => obtain ⟨a, s'⟩ := as; rw [ht] at h1 h2 h3; exact ⟨off, h1, h2, h3⟩

/-- an error in a state reached by a skip: the skipped bytes are accounted as "offending bytes" -/
theorem Skip.acct {α β : Type} {s : St} {r : R α} {q : R β} (h : Skip s r) (hq : stOf q = stOf r) (hr : isOkR q = false) :
    Acct s q := by
  obtain ⟨off, h1, h2, h3⟩ := h
  rw [← hq] at h1 h2 h3
  exact ⟨[], off, by simp [h1], by simp [h2], by simp [h3], trivial, by simp [hr]⟩

theorem Skip.acct_error {α β : Type} {s : St} {r : R α} (h : Skip s r) (e : Err) :
    Acct s (r.bind fun _ s' => (.error (e, s') : R β)) := by
  cases r with
  | error x => exact h.acct rfl rfl
  | ok x => exact h.acct rfl rfl

theorem bpGo_acct (path : Path) (size : Nat) (todo done : List SC) (s : St) : Acct s (bpGo path size done todo s) := by
  rcases bpGo_cases path size todo done with h | ⟨_, _, _, _, _, h⟩ <;> rw [h]
  · exact Quiet.acct ⟨rfl, rfl, rfl⟩
  · exact Skip.acct_error (consume_skip _ _) _

theorem bytesParsed_acct (path : Path) (size : Nat) (s : St) : Acct s (bytesParsed path size s) :=
  bpGo_acct path size s.scs [] s

/-- `bytes_parsed` succeeding leaves `inp`, `pos`, `out` alone -/
theorem bpGo_ok_quiet (path : Path) (size : Nat) : ∀ (todo done : List SC) (s s' : St),
    bpGo path size done todo s = .ok ((), s') → s'.inp = s.inp ∧ s'.pos = s.pos ∧ s'.out = s.out := by
  intro todo done s s' h
  rw [bpGo_ok_inv h]
  exact ⟨rfl, rfl, rfl⟩

/-- `process_primitive` in strict mode: after the regions are charged, either the input ends (what was left is consumed), or
the field's bytes are those of its event, or — the value being out of range — they are consumed without one -/
theorem readPrim_acct (p : Prim) (path : Path) (s : St) : Acct s (readPrim true p path s) := by
  unfold readPrim
  refine (bytesParsed_acct path p.size s).bind fun _ s1 _ => ?_
  cases ht : take p.size s1 with
  | error e => exact (take_skip p.size s1).acct (by rw [ht]; rfl) rfl
  | ok as =>
    obtain ⟨bs, s2⟩ := as
    obtain ⟨hl, hi, hs2⟩ := take_ok_inv ht
    have hp : s2.pos = s1.pos + p.size := by rw [hs2]
    have ho : s2.out = s1.out := by rw [hs2]
    simp only [R.bind_ok]
    have hbytes : intToBytes p.size (p.ofBytes bs) = bs := intToBytes_intOfBytes p.size p.signed bs hl
    split
    · refine ⟨[(s2.pos, .marshal ⟨path, .named p.name false, some (p.ofBytes bs), p.name, p.size⟩)], [], ?_, ?_, ?_, ?_, fun _ => rfl⟩
      · simp [stOf, emitM, emit, ho]
      · simp [stOf, emitM, emit, evBytes, Event.bytes, MEvent.bytes, hbytes, hi]
      · simp [stOf, emitM, emit, evBytes, Event.bytes, MEvent.bytes, hbytes, hp, hl]
      · simp [Stamped, Event.bytes, MEvent.bytes, hbytes, hp, hl]
    · simp only [if_true]
      exact (take_skip p.size s1).acct (by rw [ht]; rfl) rfl

theorem anticipate_some {vpath : Path} {v id : Nat} : ∀ {scs : List SC} {e : Err}, anticipate vpath v id scs = some e →
    ∃ cid cp m a b, e = .anticipated cid cp m a vpath v b
  | [], _, h => by simp [anticipate] at h
  | d :: rest, e, h => by
    unfold anticipate at h
    split at h
    · exact anticipate_some h
    · split at h
      · cases h; exact ⟨_, _, _, _, _, rfl⟩
      · exact anticipate_some h

theorem anticipateM_acct (vpath : Path) (v id : Nat) (s : St) : Acct s (anticipateM true vpath v id s) := by
  unfold anticipateM
  split
  · exact Acct.same rfl
  · exact Acct.same rfl

theorem openRegion_acct (id : Nat) (cpath : Path) (n : Nat) (s : St) : Acct s (openRegion true id cpath n s) := by
  unfold openRegion
  exact (anticipateM_acct cpath n id s).bind fun _ s' _ => Quiet.acct ⟨rfl, rfl, rfl⟩

theorem setListed_acct (id : Nat) (cpath : Path) (n : Nat) (s : St) : Acct s (setListed true id cpath n s) := by
  unfold setListed
  exact Acct.of_scs _ (anticipateM_acct cpath n id _)

theorem assertDoneSC_acct (c : SC) (s : St) : Acct s (assertDoneSC true c s) := by
  unfold assertDoneSC
  split
  · exact Acct.same rfl
  · split
    · exact Acct.same rfl
    · exact Acct.same rfl

theorem acct_stepInv : StepInv true @Acct where
  pure a s := Acct.same rfl
  crash cls site s := Acct.same rfl
  reject e s _ := Acct.same rfl
  bind := Acct.bind
  emit m hm h := Acct.of_emit (.marshal m) (by simp only [Event.bytes, MEvent.bytes, hm]) h
  scs l h := Acct.of_scs l h
  caught hr hk hq := hq.strict ▸ hr.bind hk
  readPrim p _ := readPrim_acct p
  openRegion := openRegion_acct
  setListed := setListed_acct
  assertDoneSC := assertDoneSC_acct

theorem decode_acct (t : Ty) (path : Path) (sel : Option Int) (s : St) : Acct s (decode true t path sel s) :=
  acct_stepInv.decode t t.pk_true path sel s

theorem arm_acct : (arms : Arms) → ∀ (un want : String) (path : Path) (s : St), Acct s (decodeArm true arms un want path s) :=
  fun arms => acct_stepInv.arm arms arms.pk_true

theorem decodeCommand_acct (tb : MsgTables) (path : Path) (s0 : St) : Acct s0 (decodeCommand true tb path s0) :=
  acct_stepInv.command tb tb.pk_true path s0

theorem decodeResponse_acct (tb : MsgTables) (cc : Option Int) (encFlag : Bool) (path : Path) (s0 : St) :
    Acct s0 (decodeResponse true tb cc encFlag path s0) :=
  acct_stepInv.response tb tb.pk_true cc encFlag path s0

theorem decodeStream_acct (tb : MsgTables) (path : Path) : ∀ (fuel : Nat) (s : St),
    Acct s (decodeStream true tb path fuel s) :=
  acct_stepInv.stream tb tb.pk_true path

/-- every strict run of every top-level decode (`process(...)` on a fresh coroutine) is accounted -/
theorem runWalker_acct (tb : MsgTables) (top : Top) (x : List Byte) : Acct (initSt x) (runWalker true tb top x) :=
  acct_stepInv.runWalker tb tb.pk_true top (fun t _ => t.pk_true) x
