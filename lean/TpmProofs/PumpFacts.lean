import TpmProofs.Trace
/-!
# What the byte pump shows of a walker's run (C02, C05, C10, C13)

The pump in normal form: the events shown are the trace up to the stream's silent stop (`pumpEvents_eq`), and a run that does not
end silently has shown the whole trace and ends as the walker's result dictates (`marshalRun_of_not_silent`).  With the byte
accounting of the strict walker at top level (`trace_acct`) this gives what a consumer can conclude from each outcome.
-/

/-- the events the consumer sees, without their pull counts -/
def Run.evs (r : Run) : List Event := r.events.map (·.2)

def evsBytes (es : List Event) : List Byte := es.flatMap Event.bytes

theorem evBytes_eq (new : List (Nat × Event)) : evBytes new = evsBytes (new.map (·.2)) := by
  simp [evBytes, evsBytes, List.flatMap_map]

theorem evsBytes_slice {evs pre post : List Event} {e : Event} {x : List Byte} (h : evsBytes evs = x)
    (hd : evs = pre ++ e :: post) : e.bytes = (x.drop (evsBytes pre).length).take e.bytes.length := by
  have hx : x = evsBytes pre ++ (e.bytes ++ evsBytes post) := by
    rw [← h, hd]; simp [evsBytes]
  rw [hx, List.drop_left' rfl, List.take_left' rfl]

theorem rootEllipsis_bytes {e : Event} (h : isRootEllipsis e = true) : e.bytes = [] := by
  cases e with
  | warning w => simp [isRootEllipsis] at h
  | marshal m =>
    simp only [isRootEllipsis, Bool.and_eq_true, Option.isNone_iff_eq_none] at h
    simp [Event.bytes, MEvent.bytes, h.2]

/-- the events a consumer sees for a trace: pull count = bytes consumed + the look-ahead byte, capped by the input -/
def shown (len : Nat) (tr : List (Nat × Event)) : List (Nat × Event) := tr.map fun ke => (min (ke.1 + 1) len, ke.2)

def ccAfter (tr : List (Nat × Event)) (cc : Option Int) : Option Int := tr.foldl (fun c ke => ccOf ke.2 c) cc

/-- the part of a trace before the stream's silent stop -/
def beforeStop (len : Nat) (tr : List (Nat × Event)) : List (Nat × Event) :=
  tr.takeWhile fun ke => !(ke.1 == len && isRootEllipsis ke.2)

def consumed (tb : MsgTables) (top : Top) (x : List Byte) : Nat := (stOf (runWalker true tb top x)).pos

def traceOf (tb : MsgTables) (top : Top) (x : List Byte) : List (Nat × Event) := (stOf (runWalker true tb top x)).out

@[simp] theorem shown_map_snd (len : Nat) (tr : List (Nat × Event)) : (shown len tr).map (·.2) = tr.map (·.2) := by
  simp [shown, List.map_map, Function.comp_def]

theorem takeWhile_of_all {α : Type} {p : α → Bool} {l : List α} (h : ∀ a ∈ l, p a = true) : l.takeWhile p = l := by
  simpa using List.takeWhile_append_of_pos (l₂ := []) h

theorem takeWhile_not_of_any {α : Type} {p : α → Bool} {l : List α} (h : l.any p = false) : l.takeWhile (fun a => !p a) = l :=
  takeWhile_of_all fun a ha => by rw [Bool.not_eq_true', ← Bool.not_eq_true]; exact List.any_eq_false.mp h a ha

/-- the flush loop shows the trace up to the first event at which it stops, and says whether there is one -/
theorem pumpEvents_eq (isStream : Bool) (len : Nat) : ∀ (out acc : List (Nat × Event)) (cc : Option Int),
    pumpEvents isStream len out acc cc =
      (acc ++ shown len (out.takeWhile fun ke => !(isStream && ke.1 == len && isRootEllipsis ke.2)),
       ccAfter (out.takeWhile fun ke => !(isStream && ke.1 == len && isRootEllipsis ke.2)) cc,
       out.any fun ke => isStream && ke.1 == len && isRootEllipsis ke.2)
  | [], acc, cc => by simp [pumpEvents, shown, ccAfter]
  | (k, e) :: rest, acc, cc => by
    unfold pumpEvents
    cases h : isStream && k == len && isRootEllipsis e
    · simp only [List.takeWhile_cons, List.any_cons, h, Bool.not_false, Bool.false_eq_true, if_true, if_false, Bool.false_or,
        pumpEvents_eq isStream len rest]
      simp [shown, ccAfter]
    · simp only [List.takeWhile_cons, List.any_cons, h, Bool.not_true, Bool.false_eq_true, if_true, if_false, Bool.true_or]
      simp [shown, ccAfter]

theorem pumpEvents_all (isStream : Bool) (len : Nat) : ∀ (out acc : List (Nat × Event)) (cc : Option Int),
    (∀ ke ∈ out, (isStream && ke.1 == len && isRootEllipsis ke.2) = false) →
    pumpEvents isStream len out acc cc = (acc ++ shown len out, ccAfter out cc, false) := by
  intro out acc cc h
  rw [pumpEvents_eq, takeWhile_of_all (fun ke hke => by simp [h ke hke]), List.any_eq_false.mpr (fun ke hke => by simp [h ke hke])]

theorem pumpEvents_stop (len : Nat) (out : List (Nat × Event)) (e : Event) (acc : List (Nat × Event)) (cc : Option Int)
    (h : ∀ ke ∈ out, (ke.1 == len && isRootEllipsis ke.2) = false) (he : isRootEllipsis e = true) :
    pumpEvents true len (out ++ [(len, e)]) acc cc = (acc ++ shown len out, ccAfter out cc, true) := by
  rw [pumpEvents_eq, List.takeWhile_append_of_pos (fun ke hke => by simp [h ke hke])]
  simp [he]

theorem pumpOutcome_ne_silent (x : List Byte) (pos : Nat) (res : Except Err Val) : pumpOutcome x pos res ≠ .silent := by
  cases res with
  | ok v => simp only [pumpOutcome]; split <;> simp
  | error e => cases e <;> simp [pumpOutcome]

theorem pumpOutcome_done {x : List Byte} {pos : Nat} {res : Except Err Val} {v : Val}
    (h : pumpOutcome x pos res = .done v) : res = .ok v ∧ ¬ pos < x.length := by
  cases res with
  | ok v' => simp only [pumpOutcome] at h; split at h <;> simp_all
  | error e => cases e <;> simp [pumpOutcome] at h

theorem pumpOutcome_superfluous {x : List Byte} {pos : Nat} {res : Except Err Val}
    {rest : List Byte} {v : Val} (h : pumpOutcome x pos res = .superfluous rest v) :
    res = .ok v ∧ pos < x.length ∧ rest = x.drop pos := by
  cases res with
  | ok v' => simp only [pumpOutcome] at h; split at h <;> simp_all
  | error e => cases e <;> simp [pumpOutcome] at h

theorem pumpOutcome_raised {x : List Byte} {pos : Nat} {res : Except Err Val}
    {e : Err} {rem : List Byte} (h : pumpOutcome x pos res = .raised e rem) :
    res = .error e ∧ rem = x.drop pos ∧ e ≠ .depleted ∧ e.isCrash = false := by
  cases res with
  | ok v' => simp only [pumpOutcome] at h; split at h <;> simp at h
  | error e' => cases e' <;> simp [pumpOutcome] at h <;> obtain ⟨rfl, rfl⟩ := h <;> simp [Err.isCrash]

theorem pumpOutcome_crash {x : List Byte} {pos : Nat} {res : Except Err Val} {c m : String}
    (h : pumpOutcome x pos res = .crash c m) : res = .error (.crash c m) := by
  cases res with
  | ok v' => simp only [pumpOutcome] at h; split at h <;> simp at h
  | error e => cases e <;> simp_all [pumpOutcome]

theorem resOf_ok {r : R Val} {v : Val} (h : resOf r = .ok v) : ∃ s, r = .ok (v, s) := by
  cases r with
  | ok a => obtain ⟨v', s⟩ := a; simp only [resOf, Except.ok.injEq] at h; exact ⟨s, by rw [h]⟩
  | error e => obtain ⟨e, s⟩ := e; simp [resOf] at h

theorem resOf_error {r : R Val} {e : Err} (h : resOf r = .error e) : ∃ s, r = .error (e, s) := by
  cases r with
  | ok a => obtain ⟨v', s⟩ := a; simp [resOf] at h
  | error e' => obtain ⟨e', s⟩ := e'; simp only [resOf, Except.error.injEq] at h; exact ⟨s, by rw [h]⟩

theorem marshalRun_stream (abort : Bool) (tb : MsgTables) (x : List Byte) :
    marshalRun abort tb .stream x =
      ⟨shown x.length (beforeStop x.length (stOf (runWalker abort tb .stream x)).out),
       if (stOf (runWalker abort tb .stream x)).out.any (fun ke => ke.1 == x.length && isRootEllipsis ke.2) then .silent
       else pumpOutcome x (stOf (runWalker abort tb .stream x)).pos (resOf (runWalker abort tb .stream x)),
       ccAfter (beforeStop x.length (stOf (runWalker abort tb .stream x)).out) none⟩ := by
  simp only [marshalRun, pump, Top.isStream, pumpEvents_eq, beforeStop, Bool.true_and, List.nil_append]

theorem marshalRun_stop (abort : Bool) (tb : MsgTables) (x : List Byte) (tr : List (Nat × Event)) (e : Event)
    (hout : (stOf (runWalker abort tb .stream x)).out = tr ++ [(x.length, e)])
    (h : ∀ ke ∈ tr, (ke.1 == x.length && isRootEllipsis ke.2) = false) (he : isRootEllipsis e = true) :
    marshalRun abort tb .stream x = ⟨shown x.length tr, .silent, ccAfter tr none⟩ := by
  simp only [marshalRun, pump, Top.isStream, hout, pumpEvents_stop x.length tr e [] none h he]
  simp

theorem stream_silent_iff (abort : Bool) (tb : MsgTables) (x : List Byte) :
    (marshalRun abort tb .stream x).outcome = .silent ↔
      (stOf (runWalker abort tb .stream x)).out.any (fun ke => ke.1 == x.length && isRootEllipsis ke.2) = true := by
  rw [marshalRun_stream]
  constructor
  · intro h
    apply Classical.byContradiction
    intro hf
    rw [if_neg hf] at h
    exact pumpOutcome_ne_silent _ _ _ h
  · intro hf
    rw [if_pos hf]

theorem marshalRun_nonstream (abort : Bool) (tb : MsgTables) (top : Top) (hs : top.isStream = false) (x : List Byte) :
    marshalRun abort tb top x =
      ⟨shown x.length (stOf (runWalker abort tb top x)).out,
       pumpOutcome x (stOf (runWalker abort tb top x)).pos (resOf (runWalker abort tb top x)),
       ccAfter (stOf (runWalker abort tb top x)).out none⟩ := by
  simp only [marshalRun, pump, hs, pumpEvents_all false _ _ _ _ (fun _ _ => rfl), List.nil_append]
  rfl

theorem marshalRun_of_not_silent (abort : Bool) (tb : MsgTables) (top : Top) (x : List Byte)
    (h : (marshalRun abort tb top x).outcome ≠ .silent) :
    marshalRun abort tb top x =
      ⟨shown x.length (stOf (runWalker abort tb top x)).out,
       pumpOutcome x (stOf (runWalker abort tb top x)).pos (resOf (runWalker abort tb top x)),
       ccAfter (stOf (runWalker abort tb top x)).out none⟩ := by
  cases top with
  | stream =>
    rw [marshalRun_stream] at h ⊢
    cases ha : (stOf (runWalker abort tb .stream x)).out.any (fun ke => ke.1 == x.length && isRootEllipsis ke.2) with
    | true => simp [ha] at h
    | false =>
      have : beforeStop x.length (stOf (runWalker abort tb .stream x)).out = (stOf (runWalker abort tb .stream x)).out :=
        takeWhile_not_of_any ha
      simp only [this, Bool.false_eq_true, if_false]
  | _ => exact marshalRun_nonstream abort tb _ rfl x

theorem marshalRun_events_prefix (abort : Bool) (tb : MsgTables) (top : Top) (x : List Byte) :
    ∃ pre, pre <+: (stOf (runWalker abort tb top x)).out ∧ (marshalRun abort tb top x).events = shown x.length pre := by
  simp only [marshalRun, pump, pumpEvents_eq, List.nil_append]
  exact ⟨_, List.takeWhile_prefix _, rfl⟩

/-- a crash outcome can only come from a crash of the walker (either mode) -/
theorem crash_from_walker (abort : Bool) (tb : MsgTables) (top : Top) (x : List Byte) (c m : String)
    (h : (marshalRun abort tb top x).outcome = .crash c m) : ∃ s, runWalker abort tb top x = .error (.crash c m, s) := by
  rw [marshalRun_of_not_silent abort tb top x (by simp [h])] at h
  exact resOf_error (pumpOutcome_crash h)

theorem raised_from_walker (abort : Bool) (tb : MsgTables) (top : Top) (x : List Byte) (e : Err) (rem : List Byte)
    (h : (marshalRun abort tb top x).outcome = .raised e rem) :
    (∃ s, runWalker abort tb top x = .error (e, s)) ∧ e ≠ .depleted ∧ e.isCrash = false := by
  rw [marshalRun_of_not_silent abort tb top x (by simp [h])] at h
  obtain ⟨hres, -, hk⟩ := pumpOutcome_raised h
  exact ⟨resOf_error hres, hk⟩

/-- the input is the bytes of the trace, then bytes consumed without an event (only before an error), then what is left -/
theorem trace_acct (tb : MsgTables) (top : Top) (x : List Byte) :
    ∃ off, x = evBytes (traceOf tb top x) ++ off ++ (stOf (runWalker true tb top x)).inp ∧
      consumed tb top x = (evBytes (traceOf tb top x)).length + off.length ∧ Stamped 0 (traceOf tb top x) ∧
      (isOkR (runWalker true tb top x) = true → off = []) := by
  obtain ⟨new, off, h1, h2, h3, h4, h5⟩ := runWalker_acct tb top x
  simp only [initSt, List.nil_append, Nat.zero_add] at h1 h2 h3 h4
  rw [← h1] at h2 h3 h4
  exact ⟨off, h2, h3, h4, h5⟩

theorem drop_consumed (tb : MsgTables) (top : Top) (x : List Byte) :
    x.drop (consumed tb top x) = (stOf (runWalker true tb top x)).inp := by
  obtain ⟨off, h2, h3, -, -⟩ := trace_acct tb top x
  rw [h3]
  conv => lhs; arg 2; rw [h2]
  exact List.drop_left' (by simp)

theorem consumed_le (tb : MsgTables) (top : Top) (x : List Byte) : consumed tb top x ≤ x.length := by
  obtain ⟨off, h2, h3, -, -⟩ := trace_acct tb top x
  have := congrArg List.length h2
  simp only [List.length_append] at this
  omega

theorem done_walker {tb : MsgTables} {top : Top} {x : List Byte} {v : Val}
    (h : (marshalRun true tb top x).outcome = .done v) :
    ∃ s', runWalker true tb top x = .ok (v, s') ∧ s'.inp = [] := by
  rw [marshalRun_of_not_silent true tb top x (by simp [h])] at h
  obtain ⟨hres, hpos⟩ := pumpOutcome_done h
  obtain ⟨s', hw⟩ := resOf_ok hres
  refine ⟨s', hw, ?_⟩
  have hd := drop_consumed tb top x
  rw [List.drop_of_length_le (by simpa [consumed] using hpos), hw] at hd
  exact hd.symm

/-- **completed runs** (`done`): the consumer saw every event of the trace, the walker consumed the whole
input, and it did so only through emitted primitive events — so re-encoding the events gives the input -/
theorem done_facts (tb : MsgTables) (top : Top) (x : List Byte) (v : Val)
    (h : (marshalRun true tb top x).outcome = .done v) :
    evsBytes (marshalRun true tb top x).evs = x := by
  obtain ⟨s', hw, hinp⟩ := done_walker h
  obtain ⟨off, h2, -, -, h5⟩ := trace_acct tb top x
  rw [marshalRun_of_not_silent true tb top x (by simp [h])]
  rw [hw] at h2 h5
  rw [h5 rfl, stOf, hinp] at h2
  simpa [Run.evs, ← evBytes_eq, traceOf] using h2.symm

/-- **rejected runs** (`raised`, any constraint error): the input is exactly the bytes of the events shown,
then the bytes consumed without an event (the offending field or the skipped rest of a region), then the
error's remaining bytes — and the remaining bytes are exactly what the walker had not consumed -/
theorem raised_facts (tb : MsgTables) (top : Top) (x : List Byte) (e : Err) (rem : List Byte)
    (h : (marshalRun true tb top x).outcome = .raised e rem) :
    ∃ off, x = evsBytes (marshalRun true tb top x).evs ++ off ++ rem ∧
      rem = (stOf (runWalker true tb top x)).inp := by
  have hr := marshalRun_of_not_silent true tb top x (by simp [h])
  rw [hr] at h
  have hrem : rem = (stOf (runWalker true tb top x)).inp := by
    rw [(pumpOutcome_raised h).2.1]; exact drop_consumed tb top x
  obtain ⟨off, h2, -, -, -⟩ := trace_acct tb top x
  refine ⟨off, ?_, hrem⟩
  rw [hr, hrem]
  simpa [Run.evs, ← evBytes_eq, traceOf] using h2

theorem stamped_at {p : Nat} : ∀ {new : List (Nat × Event)}, Stamped p new → ∀ (pre : List (Nat × Event)) (ke : Nat × Event)
    (post : List (Nat × Event)), new = pre ++ ke :: post → ke.1 = p + (evBytes (pre ++ [ke])).length := by
  intro new h pre ke post hn
  subst hn
  rw [stamped_append] at h
  obtain ⟨_, h2⟩ := h
  simp only [Stamped] at h2
  rw [h2.1, evBytes_append]
  simp [evBytes, Nat.add_assoc]

/-- **one byte of look-ahead** (every strict run, every input): whenever an event is shown, the number of
bytes pulled from the source is at most one more than the bytes of the fields shown so far (including
that event) -/
theorem lookahead_facts (tb : MsgTables) (top : Top) (x : List Byte)
    (pre : List (Nat × Event)) (pe : Nat × Event) (post : List (Nat × Event))
    (h : (marshalRun true tb top x).events = pre ++ pe :: post) :
    pe.1 ≤ (evsBytes ((pre ++ [pe]).map (·.2))).length + 1 := by
  obtain ⟨_, _, _, h4, _⟩ := trace_acct tb top x
  obtain ⟨tr, ⟨rest, hrest⟩, hev⟩ := marshalRun_events_prefix true tb top x
  rw [hev] at h
  -- the shown events are the first trace events with their stamps turned into pull counts
  obtain ⟨l1, l2, hsplit, hl1, hl2⟩ := List.map_eq_append_iff.mp h
  obtain ⟨a, l3, hl2', hfa, _⟩ := List.map_eq_cons_iff.mp hl2
  have hst := stamped_at h4 l1 a (l3 ++ rest) (by rw [traceOf, ← hrest, hsplit, hl2']; simp)
  have hsnd : (pre ++ [pe]).map (·.2) = (l1 ++ [a]).map (·.2) := by
    rw [← hl1, ← hfa]; simp [List.map_map, Function.comp_def]
  rw [hsnd, ← evBytes_eq, ← Nat.zero_add (evBytes _).length, ← hst, ← hfa]
  exact Nat.min_le_left _ _
