import TpmProofs.Trunc
import TpmProofs.MsgSound
/-!
# Truncated streams (C05, C10): a stream cut anywhere

The stream loop looks at the end of the input (`if the input is exhausted: emit the next message's root event and stop`),
so a run on a prefix has one more way to end than `TRB` allows: cleanly, when the cut falls exactly where the full run
starts its next message.  `SRB k s r r'`: either the step consumed at most `k` bytes and nothing differs, or the run on the
prefix stopped (`depleted`, or cleanly with `None`) having consumed exactly the `k` bytes and emitted exactly the events
the full run emits up to that byte count.
-/

def SRB (k : Nat) (s : St) (r r' : R Val) : Prop :=
  ∃ new : List (Nat × Event),
    (stOf r).out = s.out ++ new ∧ s.pos ≤ (stOf r).pos ∧
    (∀ ke ∈ new, s.pos ≤ ke.1 ∧ ke.1 ≤ (stOf r).pos) ∧
    ((used s r ≤ k ∧ r' = r.mapSt (cutSt (k - used s r))) ∨
     (∃ t, (r' = .error (.depleted, t) ∨ r' = .ok (.none, t)) ∧ t.inp = [] ∧ t.pos = s.pos + k ∧
        t.out = s.out ++ new.filter (fun ke => ke.1 ≤ s.pos + k)))

theorem SRB.of_trb {k : Nat} {s : St} {r r' : R Val} (h : TRB k s r r') : SRB k s r r' := by
  obtain ⟨new, ho, hp, hst, hle, hlt⟩ := h
  refine ⟨new, ho, hp, hst, ?_⟩
  by_cases hu : used s r ≤ k
  · exact Or.inl ⟨hu, hle hu⟩
  · obtain ⟨t, h0, h1, h2, h3⟩ := hlt (by omega)
    exact Or.inr ⟨t, Or.inl h0, h1, h2, h3⟩

theorem SRB.after {k : Nat} {s t : St} {new : List (Nat × Event)} {q q' : R Val} (ho : t.out = s.out ++ new)
    (hp : s.pos ≤ t.pos) (hst : ∀ ke ∈ new, s.pos ≤ ke.1 ∧ ke.1 ≤ t.pos) (hc : t.pos - s.pos ≤ k)
    (h : SRB (k - (t.pos - s.pos)) t q q') : SRB k s q q' := by
  obtain ⟨new2, go, gp, gst, gd⟩ := h
  obtain ⟨wo, wp, wst⟩ := window_append ho hp hst go gp gst
  have hu : used s q = (t.pos - s.pos) + used t q := by clear gd; simp only [used]; omega
  refine ⟨new ++ new2, wo, wp, wst, ?_⟩
  rcases gd with ⟨hu2, hq'⟩ | ⟨t2, h0, h1, h2, h3⟩
  · refine Or.inl ⟨by omega, ?_⟩
    rw [hq', show k - (t.pos - s.pos) - used t q = k - used s q by omega]
  · refine Or.inr ⟨t2, h0, h1, by omega, ?_⟩
    have hf := filter_le_self (new := new) (b := s.pos + k) (fun ke hke => by have := hst ke hke; omega)
    rw [h3, ho, List.filter_append, hf, show t.pos + (k - (t.pos - s.pos)) = s.pos + k by omega, List.append_assoc]

/-- the cut falls inside a first part that ended in `t`: whatever step `q` follows (`h` is used for its trace only), the run on
the prefix has stopped in `t'` before -/
theorem SRB.cut {k k' : Nat} {s t t' : St} {new : List (Nat × Event)} {q q' r' : R Val} (ho : t.out = s.out ++ new)
    (hp : s.pos ≤ t.pos) (hst : ∀ ke ∈ new, s.pos ≤ ke.1 ∧ ke.1 ≤ t.pos) (hc : k < t.pos - s.pos) (h : SRB k' t q q')
    (hr : r' = .error (.depleted, t') ∨ r' = .ok (.none, t')) (h1 : t'.inp = []) (h2 : t'.pos = s.pos + k)
    (h3 : t'.out = s.out ++ new.filter (fun ke => ke.1 ≤ s.pos + k)) : SRB k s q r' := by
  obtain ⟨new2, go, gp, gst, -⟩ := h
  obtain ⟨wo, wp, wst⟩ := window_append ho hp hst go gp gst
  refine ⟨new ++ new2, wo, wp, wst, Or.inr ⟨t', hr, h1, h2, ?_⟩⟩
  have hf := filter_le_nil (new := new2) (b := s.pos + k) (fun ke hke => by have := gst ke hke; omega)
  rw [h3, List.filter_append, hf, List.append_nil]

/-- first part `TRB`, continuation `SRB` -/
theorem SRB.bind {α : Type} {k : Nat} {s : St} {r r' : R α} {g : α → St → R Val} (h : TRB k s r r')
    (hg : ∀ a t, r = .ok (a, t) → ∀ k', SRB k' t (g a t) (g a (cutSt k' t))) :
    SRB k s (r.bind g) (r'.bind g) := by
  cases r with
  | error e => exact SRB.of_trb (h.bind fun _ _ he => nomatch he)
  | ok at' =>
    obtain ⟨new, ho, hp, hst, hle, hlt⟩ := h
    obtain ⟨a, t⟩ := at'
    by_cases hc : t.pos - s.pos ≤ k
    · rw [hle hc]
      exact SRB.after ho hp hst hc (hg a t rfl _)
    · obtain ⟨t', h0, h1, h2, h3⟩ := hlt (Nat.lt_of_not_le hc)
      rw [h0]
      exact SRB.cut ho hp hst (Nat.lt_of_not_le hc) (hg a t rfl 0) (Or.inl rfl) h1 h2 h3

/-- the cut falls exactly where the next message starts: on the prefix the loop stops cleanly with the message's root event,
which is also the first event of the full run's next message -/
theorem SRB.boundary {α : Type} {s : St} {r r0 : R α} {g : α → St → R Val} (h : TRB 0 s r r0) (t0 t : St)
    (h0 : r0 = .error (.depleted, t0)) (hti : t.inp = []) (htp : t.pos = s.pos) (hto : t.out = t0.out)
    (hg : ∀ a t1, r = .ok (a, t1) → SRB 0 t1 (g a t1) (g a (cutSt 0 t1))) :
    SRB 0 s (r.bind g) (.ok (.none, t)) := by
  obtain ⟨new, ho, hp, hst, hle, hlt⟩ := h
  -- what the run on the empty prefix shows is what the full run shows up to byte count 0
  have hfil : t.out = s.out ++ new.filter (fun ke => ke.1 ≤ s.pos + 0) := by
    rw [hto, ← TRB.out_filter ho hst hle hlt, h0]; rfl
  cases r with
  | error e => exact ⟨new, ho, hp, hst, Or.inr ⟨t, Or.inr rfl, hti, by omega, hfil⟩⟩
  | ok at' =>
    obtain ⟨a, t1⟩ := at'
    -- a message that finished without consuming a byte would have finished on the empty prefix as well
    have hpos : 0 < t1.pos - s.pos := by
      apply Nat.pos_of_ne_zero
      intro hu
      have := hle (Nat.le_of_eq hu)
      rw [h0] at this
      simp [R.mapSt] at this
    exact SRB.cut ho hp hst hpos (hg a t1 rfl) (Or.inr rfl) hti (by omega) hfil

/-! ## a message on the empty input -/

theorem readPrim_empty (p : Prim) (hp : 0 < p.size) (path : Path) (s : St) (hs : s.inp = []) (c : SC) (hsc : s.scs = [c])
    (hc : c.max = none) :
    ∃ t, readPrim true p path s = .error (.depleted, t) ∧ t.inp = [] ∧ t.pos = s.pos ∧ t.out = s.out := by
  unfold readPrim bytesParsed
  rw [hsc]
  have hov : c.over p.size = false := by simp [SC.over, hc]
  simp only [bpGo, hov, Bool.false_eq_true, if_false, List.nil_append, R.bind, take, hs, List.length_nil, hp, if_true]
  exact ⟨_, rfl, rfl, by simp, rfl⟩

theorem decodeCommand_empty (tb : MsgTables) (htag : 0 < tb.tagCmd.size) (path : Path) (s : St) (hs : s.inp = []) :
    ∃ t, decodeCommand true tb path s = .error (.depleted, t) ∧ t.inp = [] ∧ t.pos = s.pos ∧
      t.out = s.out ++ [(s.pos, .marshal ⟨path, .named "Command" false, none, "", 0⟩)] := by
  unfold decodeCommand
  simp only [msgCatch_true]
  obtain ⟨t, h, h1, h2, h3⟩ := readPrim_empty tb.tagCmd htag (path ++ [⟨"tag", none⟩])
    (emitM ⟨path, .named "Command" false, none, "", 0⟩ { s with scs := [⟨s.pos, [], 0, none⟩] }) hs _ rfl rfl
  rw [h]
  exact ⟨t, rfl, h1, h2, h3⟩

theorem decodeResponse_empty (tb : MsgTables) (htag : 0 < tb.tagRsp.size) (cc : Option Int) (enc : Bool) (path : Path)
    (s : St) (hs : s.inp = []) :
    ∃ t, decodeResponse true tb cc enc path s = .error (.depleted, t) ∧ t.inp = [] ∧ t.pos = s.pos ∧
      t.out = s.out ++ [(s.pos, .marshal ⟨path, .named "Response" false, none, "", 0⟩)] := by
  unfold decodeResponse
  simp only [msgCatch_true]
  obtain ⟨t, h, h1, h2, h3⟩ := readPrim_empty tb.tagRsp htag (path ++ [⟨"tag", none⟩])
    (emitM ⟨path, .named "Response" false, none, "", 0⟩ { s with scs := [⟨s.pos, [], 0, none⟩] }) hs _ rfl rfl
  rw [h]
  exact ⟨t, rfl, h1, h2, h3⟩

/-! ## an accepted message consumes at least one byte -/

theorem MsgTables.wf_tags {tb : MsgTables} (hw : tb.wf = true) : 0 < tb.tagCmd.size ∧ 0 < tb.tagRsp.size := by
  simp only [MsgTables.wf, Bool.and_eq_true, decide_eq_true_eq] at hw
  exact ⟨hw.1.1.1.1.1.1.1.1.1.1.1.1.1.1.1.1.1.2, hw.1.1.1.1.1.1.1.1.1.1.2⟩

theorem command_shrinks (tb : MsgTables) (hw : tb.wf = true) (path : Path) (s s1 : St) (v : Val)
    (h : decodeCommand true tb path s = .ok (v, s1)) : s1.inp.length < s.inp.length := by
  obtain ⟨p, bs, evs, _, hsp, hi, _, _, _⟩ := decodeCommand_sound tb hw path s s1 v h
  have := specCommand_pos (MsgTables.wf_tags hw).1 hsp
  rw [hi]; simp; omega

theorem response_shrinks (tb : MsgTables) (hw : tb.wf = true) (cc : Option Int) (enc : Bool) (path : Path) (s s1 : St)
    (v : Val) (h : decodeResponse true tb cc enc path s = .ok (v, s1)) : s1.inp.length < s.inp.length := by
  obtain ⟨p, bs, evs, _, hsp, hi, _, _, _⟩ := decodeResponse_sound tb hw cc enc path s s1 v h
  have := specResponse_pos (MsgTables.wf_tags hw).2 hsp
  rw [hi]; simp; omega

/-! ## the loop's fuel does not matter once it exceeds the input length -/

theorem R.bind_congr {α β : Type} {r : R α} {g g' : α → St → R β} (h : ∀ a t, r = .ok (a, t) → g a t = g' a t) :
    r.bind g = r.bind g' := by
  cases r with
  | error e => rfl
  | ok at' => exact h _ _ rfl

theorem decodeStream_fuel (tb : MsgTables) (hw : tb.wf = true) (path : Path) :
    ∀ (fuel fuel' : Nat) (s : St), s.inp.length < fuel → s.inp.length < fuel' →
      decodeStream true tb path fuel s = decodeStream true tb path fuel' s := by
  intro fuel
  induction fuel with
  | zero => intro fuel' s h; omega
  | succ n ih =>
    intro fuel' s h h'
    obtain ⟨n', rfl⟩ : ∃ n', fuel' = n' + 1 := ⟨fuel' - 1, by omega⟩
    unfold decodeStream
    split
    · rfl
    · refine R.bind_congr fun cmd s1 hc => ?_
      have h1 := command_shrinks tb hw path s s1 cmd hc
      cases cmdEncrypt tb cmd with
      | error cls => rfl
      | ok enc =>
        simp only []
        split
        · rfl
        · refine R.bind_congr fun rsp s2 hr => ?_
          have h2 := response_shrinks tb hw _ _ path s1 s2 rsp hr
          exact ih n' s2 (by omega) (by omega)

/-! ## the stream loop on a prefix -/

theorem SRB.phase {α : Type} {k : Nat} {s : St} {m : MEvent} {f : St → R α} {g : α → St → R Val}
    (hf : ∀ k, TRB k s (f s) (f (cutSt k s)))
    (he : ∀ s0 : St, s0.inp = [] → ∃ t, f s0 = .error (.depleted, t) ∧ t.inp = [] ∧ t.pos = s0.pos ∧
      t.out = s0.out ++ [(s0.pos, .marshal m)])
    (hg : ∀ a t, f s = .ok (a, t) → ∀ k', SRB k' t (g a t) (g a (cutSt k' t))) :
    SRB k s (if s.inp.isEmpty then .ok (.none, emitM m s) else (f s).bind g)
      (if (cutSt k s).inp.isEmpty then .ok (.none, emitM m (cutSt k s)) else (f (cutSt k s)).bind g) := by
  cases hi : s.inp with
  | nil =>
    simp only [cutSt_inp, hi, List.take_nil, List.isEmpty_nil, if_true]
    exact SRB.of_trb (TRB.ok_emit k s _ _)
  | cons b rest =>
    cases k with
    | zero =>
      simp only [cutSt_inp, List.take_zero, List.isEmpty_nil, List.isEmpty_cons, if_true, Bool.false_eq_true, if_false]
      obtain ⟨t0, h0, -, -, h3⟩ := he (cutSt 0 s) rfl
      exact SRB.boundary (hf 0) t0 _ h0 rfl rfl h3.symm fun a t ha => hg a t ha 0
    | succ k =>
      simp only [cutSt_inp, hi, List.take_succ_cons, List.isEmpty_cons, Bool.false_eq_true, if_false]
      exact SRB.bind (hf _) hg

theorem decodeStream_srb (tb : MsgTables) (hw : tb.wf = true) (path : Path) :
    ∀ (fuel : Nat) (s : St) (k : Nat), s.inp.length < fuel →
      SRB k s (decodeStream true tb path fuel s) (decodeStream true tb path fuel (cutSt k s)) := by
  have htags := MsgTables.wf_tags hw
  intro fuel
  induction fuel with
  | zero => intro s k h; omega
  | succ n ih =>
    intro s k hf
    unfold decodeStream
    refine SRB.phase (decodeCommand_tr tb path s) (decodeCommand_empty tb htags.1 path) fun cmd s1 hc k' => ?_
    have h1 := command_shrinks tb hw path s s1 cmd hc
    cases cmdEncrypt tb cmd with
    | error cls => exact SRB.of_trb (TRB.crash k' s1 _ _)
    | ok enc =>
      refine SRB.phase (decodeResponse_tr tb _ enc path s1) (decodeResponse_empty tb htags.2 _ enc path)
        fun rsp s2 hr k'' => ih s2 k'' ?_
      have h2 := response_shrinks tb hw _ _ path s1 s2 rsp hr
      omega
