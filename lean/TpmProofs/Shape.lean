import TpmModel.Print
import TpmModel.Message
import TpmModel.Pump
import TpmProofs.Trace
/-!
# Every event stream the decoder produces is *shaped* (C14), in either mode, for every input

`shapedB` (TpmModel/Print.lean) is the hypothesis of the printers' totality theorem: every value is of a known primitive
class, and the events that directly follow a `list[BYTE]` event as its children carry values.  Here it is proved of the
decoder by a path discipline: the events of `decode t σ` lie under `σ`; the fields of a structure lie in slots with distinct
names; the elements of a list lie in slots with distinct indices — so the event that follows a buffer's children is never
again a "child" of that buffer.

`Tr P s r`: the events a step adds satisfy the list predicate `P`.  The predicates: `GW` (warnings only), `AV` (every field event
valued), `GD σ` (the events of a decode at `σ`), `GN π N` (events in the slots `N` below `π`), `GR π f i` (elements `i, i+1, …` of the
list `f`); each also carries the printers' `kidsOk` and the per-event claim `mOk okc`, which `PrimLink` ties to the primitive types.
-/

def Tr {α : Type} (P : List Event → Prop) (s : St) (r : R α) : Prop :=
  ∃ new : List (Nat × Event), (stOf r).out = s.out ++ new ∧ P (new.map (·.2))

theorem Tr.mono {α : Type} {P Q : List Event → Prop} {s : St} {r : R α} (h : Tr P s r) (hpq : ∀ E, P E → Q E) : Tr Q s r := by
  obtain ⟨new, h1, h2⟩ := h
  exact ⟨new, h1, hpq _ h2⟩

theorem Tr.quiet {α : Type} {P : List Event → Prop} {s : St} {r : R α} (h : (stOf r).out = s.out) (hp : P []) : Tr P s r :=
  ⟨[], by simp [h], hp⟩

theorem Tr.bind {α β : Type} {P1 P2 P : List Event → Prop} {s : St} {r : R α} {f : α → St → R β} (h : Tr P1 s r)
    (hf : ∀ a t, r = .ok (a, t) → Tr P2 t (f a t)) (h1 : ∀ E, P1 E → P E) (h12 : ∀ E1 E2, P1 E1 → P2 E2 → P (E1 ++ E2)) :
    Tr P s (r.bind f) := by
  cases r with
  | error e => obtain ⟨e, t⟩ := e; exact h.mono h1
  | ok at' =>
    obtain ⟨a, t⟩ := at'
    obtain ⟨n1, o1, p1⟩ := h
    obtain ⟨n2, o2, p2⟩ := hf a t rfl
    refine ⟨n1 ++ n2, ?_, by rw [List.map_append]; exact h12 _ _ p1 p2⟩
    simp only [R.bind_ok]
    rw [o2]
    simp only [stOf] at o1
    rw [o1, List.append_assoc]

/-- a continuation that emits nothing -/
theorem Tr.bind_quiet {α β : Type} {P : List Event → Prop} {s : St} {r : R α} {f : α → St → R β} (h : Tr P s r)
    (hf : ∀ a t, (stOf (f a t)).out = t.out) : Tr P s (r.bind f) := by
  cases r with
  | error e => obtain ⟨e, t⟩ := e; exact h
  | ok at' =>
    obtain ⟨a, t⟩ := at'
    obtain ⟨new, o, p⟩ := h
    exact ⟨new, (hf a t).trans o, p⟩

/-- a first step that emits nothing: the events are the continuation's, and what is claimed of them may depend on the result -/
theorem Tr.quiet_bind {α β : Type} {Q : R β → List Event → Prop} {s : St} {r : R α} {f : α → St → R β}
    (h : (stOf r).out = s.out) (hf : ∀ a t, Tr (Q (f a t)) t (f a t)) (he : ∀ e, Q (.error e) []) :
    Tr (Q (r.bind f)) s (r.bind f) := by
  cases r with
  | error e => exact Tr.quiet h (he e)
  | ok at' =>
    obtain ⟨new, o, p⟩ := hf at'.1 at'.2
    exact ⟨new, o.trans (congrArg (· ++ new) h), p⟩

/-- a caught overrun: where the run stopped, one more warning -/
theorem Tr.caught {α β : Type} {P1 P : List Event → Prop} {s : St} {r : R α} (h : Tr P1 s r) (w : Err) (b : β)
    (h1w : ∀ E, P1 E → P (E ++ [.warning w])) : Tr P s (.ok (b, emitW w (stOf r)) : R β) := by
  obtain ⟨new, o, p⟩ := h
  refine ⟨new ++ [((stOf r).pos, .warning w)], ?_, by rw [List.map_append]; exact h1w _ p⟩
  show (stOf r).out ++ _ = _
  rw [o, List.append_assoc]

theorem Tr.of_emit {α : Type} {P Q : List Event → Prop} {s : St} (e : Event) {r : R α} (h : Tr P (emit e s) r)
    (hq : ∀ E, P E → Q (e :: E)) : Tr Q s r := by
  obtain ⟨new, h1, h2⟩ := h
  refine ⟨(s.pos, e) :: new, ?_, hq _ h2⟩
  rw [h1]; simp [emit]

theorem Tr.of_scs {α : Type} {P : List Event → Prop} {s : St} (scs : List SC) {r : R α} (h : Tr P { s with scs := scs } r) :
    Tr P s r := h

/-! ## warnings only -/

def isWarn : Event → Bool
  | .warning _ => true
  | .marshal _ => false

def GW (E : List Event) : Prop := ∀ e ∈ E, isWarn e = true

theorem GW.nil : GW [] := by intro e he; cases he
theorem GW.append {a b : List Event} (ha : GW a) (hb : GW b) : GW (a ++ b) := by
  intro e he
  rcases List.mem_append.mp he with h | h
  · exact ha e h
  · exact hb e h
theorem GW.cons_w (w : Err) {E : List Event} (h : GW E) : GW (.warning w :: E) := by
  intro e he
  cases he with
  | head => rfl
  | tail _ h' => exact h e h'

theorem Tr.gw_emitW {α : Type} {s : St} (e : Err) {r : R α} (h : Tr GW (emit (.warning e) s) r) : Tr GW s r :=
  Tr.of_emit (.warning e) h (fun _ h => GW.cons_w e h)

theorem anticipateM_gw (abort : Bool) (vpath : Path) (v id : Nat) (s : St) : Tr GW s (anticipateM abort vpath v id s) := by
  unfold anticipateM
  split
  · exact Tr.quiet rfl GW.nil
  · split
    · exact Tr.quiet rfl GW.nil
    · exact Tr.gw_emitW _ (Tr.quiet rfl GW.nil)

theorem openRegion_gw (abort : Bool) (id : Nat) (cpath : Path) (n : Nat) (s : St) : Tr GW s (openRegion abort id cpath n s) := by
  unfold openRegion
  exact (anticipateM_gw _ _ _ _ s).bind_quiet fun _ _ => rfl

theorem setListed_gw (abort : Bool) (id : Nat) (cpath : Path) (n : Nat) (s : St) : Tr GW s (setListed abort id cpath n s) := by
  unfold setListed
  exact Tr.of_scs _ (anticipateM_gw _ _ _ _ _)

theorem assertDoneSC_gw (abort : Bool) (c : SC) (s : St) : Tr GW s (assertDoneSC abort c s) := by
  unfold assertDoneSC
  split
  · exact Tr.quiet rfl GW.nil
  · split
    · exact Tr.quiet rfl GW.nil
    · split
      · exact Tr.quiet rfl GW.nil
      · apply Tr.gw_emitW
        split
        · exact (Tr.quiet (bytesParsed_out ..) GW.nil).bind_quiet fun _ t => consume_out _ t
        · exact Tr.quiet rfl GW.nil

theorem assertDone_gw (abort : Bool) (id : Nat) (s : St) : Tr GW s (assertDone abort id s) := by
  unfold assertDone
  split
  · exact Tr.quiet rfl GW.nil
  · exact Tr.of_scs _ (assertDoneSC_gw _ _ _)

/-! ## runs of buffer children -/

theorem bytesRun_append (P : Path) : ∀ (A B : List Event), bytesRun P A = true → bytesRun P B = true →
    bytesRun P (A ++ B) = true
  | [], B, _, hb => hb
  | .warning _ :: A, B, ha, hb => bytesRun_append P A B ha hb
  | .marshal c :: A, B, ha, hb => by
    simp only [List.cons_append, bytesRun] at ha ⊢
    split
    · rename_i hc
      simp only [hc, if_true, Bool.and_eq_true] at ha ⊢
      exact ⟨ha.1, bytesRun_append P A B ha.2 hb⟩
    · rfl

/-- a run in which every child of `P` carries a value -/
theorem bytesRun_of_kids (P : Path) : ∀ (B : List Event),
    (∀ m, .marshal m ∈ B → isChild P m.path = true → m.val.isSome = true) → bytesRun P B = true
  | [], _ => rfl
  | .warning _ :: B, h => by
    simp only [bytesRun]
    exact bytesRun_of_kids P B (fun m hm => h m (List.mem_cons_of_mem _ hm))
  | .marshal c :: B, h => by
    simp only [bytesRun]
    split
    · rename_i hc
      simp only [Bool.and_eq_true]
      exact ⟨h c (List.mem_cons_self ..) hc, bytesRun_of_kids P B (fun m hm => h m (List.mem_cons_of_mem _ hm))⟩
    · rfl

theorem bytesRun_nonchild (P : Path) (B : List Event) (h : ∀ m, .marshal m ∈ B → isChild P m.path = false) :
    bytesRun P B = true :=
  bytesRun_of_kids P B fun m hm hc => by rw [h m hm] at hc; cases hc

theorem bytesRun_gw (P : Path) (B : List Event) (h : GW B) : bytesRun P B = true :=
  bytesRun_nonchild P B (fun m hm => by have := h _ hm; simp [isWarn] at this)

theorem kidsOk_append : ∀ (A B : List Event), kidsOk A = true → kidsOk B = true →
    (∀ p, .marshal p ∈ A → p.ty = .listOf "BYTE" → bytesRun p.path B = true) → kidsOk (A ++ B) = true
  | [], B, _, hb, _ => hb
  | .warning _ :: A, B, ha, hb, h => by
    simp only [List.cons_append, kidsOk] at ha ⊢
    exact kidsOk_append A B ha hb (fun p hp => h p (List.mem_cons_of_mem _ hp))
  | .marshal p :: A, B, ha, hb, h => by
    simp only [List.cons_append, kidsOk, Bool.and_eq_true] at ha ⊢
    refine ⟨?_, kidsOk_append A B ha.2 hb (fun q hq => h q (List.mem_cons_of_mem _ hq))⟩
    by_cases hty : p.ty = .listOf "BYTE"
    · simp only [hty, if_true] at ha ⊢
      exact bytesRun_append p.path A B ha.1 (h p (List.mem_cons_self ..) hty)
    · simp only [hty, if_false]

theorem kidsOk_gw (E : List Event) (h : GW E) : kidsOk E = true := by
  induction E with
  | nil => rfl
  | cons e rest ih =>
    cases e with
    | warning w => simp only [kidsOk]; exact ih (fun x hx => h x (List.mem_cons_of_mem _ hx))
    | marshal m => have := h _ (List.mem_cons_self ..); simp [isWarn] at this

theorem bytesRun_prefix (P : Path) : ∀ (A B : List Event), bytesRun P (A ++ B) = true → bytesRun P A = true
  | [], _, _ => rfl
  | .warning _ :: A, B, h => bytesRun_prefix P A B h
  | .marshal c :: A, B, h => by
    simp only [List.cons_append, bytesRun] at h ⊢
    split
    · rename_i hc
      simp only [hc, if_true, Bool.and_eq_true] at h ⊢
      exact ⟨h.1, bytesRun_prefix P A B h.2⟩
    · rfl

theorem kidsOk_prefix : ∀ (A B : List Event), kidsOk (A ++ B) = true → kidsOk A = true
  | [], _, _ => rfl
  | .warning _ :: A, B, h => kidsOk_prefix A B h
  | .marshal p :: A, B, h => by
    simp only [List.cons_append, kidsOk, Bool.and_eq_true] at h ⊢
    refine ⟨?_, kidsOk_prefix A B h.2⟩
    split
    · rename_i hty
      rw [if_pos hty] at h
      exact bytesRun_prefix p.path A B h.1
    · rfl

/-! ## when a path is not a buffer's child -/

/-- two paths below `π`, one a buffer and the other its child: siblings of one name, or both deeper in one slot -/
theorem isChild_under {π : Path} {a b : PathNode} {r r' : Path} (h : isChild (π ++ a :: r) (π ++ b :: r') = true) :
    (r = [] ∧ r' = [] ∧ a.name = b.name) ∨ (r ≠ [] ∧ r' ≠ [] ∧ a = b) := by
  unfold isChild at h
  simp only [Bool.and_eq_true, beq_iff_eq, List.dropLast_append_cons, List.append_cancel_left_eq] at h
  cases r with
  | nil =>
    cases r' with
    | nil => simpa using h.2
    | cons x xs => simp at h
  | cons y ys =>
    cases r' with
    | nil => simp at h
    | cons x xs => simp at h; simp [h.1.1]

theorem isChild_false_names (π : Path) (f g : String) (i j : Option Nat) (r r' : Path) (h : f ≠ g) :
    isChild (π ++ ⟨f, i⟩ :: r) (π ++ ⟨g, j⟩ :: r') = false := by
  apply Bool.eq_false_iff.mpr
  intro hc
  rcases isChild_under hc with ⟨_, _, hn⟩ | ⟨_, _, hn⟩
  · exact h hn
  · exact h (congrArg PathNode.name hn)

theorem isChild_false_idx (π : Path) (f : String) (i j : Nat) (y : PathNode) (ys r' : Path) (h : i ≠ j) :
    isChild (π ++ ⟨f, some i⟩ :: y :: ys) (π ++ ⟨f, some j⟩ :: r') = false := by
  apply Bool.eq_false_iff.mpr
  intro hc
  rcases isChild_under hc with ⟨hr, _⟩ | ⟨_, _, hn⟩
  · cases hr
  · cases hn; exact h rfl

theorem isChild_deeper (π : Path) (a b c : PathNode) (r : Path) : isChild (π ++ [a]) (π ++ b :: c :: r) = false := by
  apply Bool.eq_false_iff.mpr
  intro hc
  rcases isChild_under hc with ⟨_, hr, _⟩ | ⟨hr, _⟩
  · cases hr
  · exact hr rfl

/-! ## the list predicates -/

section
variable (okc : MEvent → Prop)

/-- `okc`: what is known of every field event that carries a value (its class, its value, …) -/
def mOk (m : MEvent) : Prop := m.val.isSome = true → okc m

/-- events of a walker at path `σ`: under `σ`, none of them a list event at `σ` itself -/
def GD (σ : Path) (E : List Event) : Prop :=
  (∀ m, .marshal m ∈ E → (∃ r, m.path = σ ++ r ∧ (r = [] → ∀ n, m.ty ≠ .listOf n)) ∧ mOk okc m) ∧ kidsOk E = true

/-- events in the slots `N` below `π` -/
def GN (π : Path) (N : List String) (E : List Event) : Prop :=
  (∀ m, .marshal m ∈ E → (∃ g i r, g ∈ N ∧ m.path = π ++ ⟨g, i⟩ :: r) ∧ mOk okc m) ∧ kidsOk E = true

/-- events of the elements `lo, lo+1, …` of the list `f` below `π` -/
def GR (π : Path) (f : String) (lo : Nat) (E : List Event) : Prop :=
  (∀ m, .marshal m ∈ E → (∃ j r, lo ≤ j ∧ m.path = π ++ ⟨f, some j⟩ :: r ∧ (r = [] → ∀ n, m.ty ≠ .listOf n)) ∧ mOk okc m) ∧
    kidsOk E = true

variable {okc}

theorem gw_no_marshal {E : List Event} (h : GW E) (m : MEvent) (hm : .marshal m ∈ E) : False := by
  have := h _ hm; simp [isWarn] at this

theorem GD.of_gw (σ : Path) {E : List Event} (h : GW E) : GD okc σ E :=
  ⟨fun m hm => (gw_no_marshal h m hm).elim, kidsOk_gw E h⟩
theorem GN.of_gw (π : Path) (N : List String) {E : List Event} (h : GW E) : GN okc π N E :=
  ⟨fun m hm => (gw_no_marshal h m hm).elim, kidsOk_gw E h⟩
theorem GR.of_gw (π : Path) (f : String) (lo : Nat) {E : List Event} (h : GW E) : GR okc π f lo E :=
  ⟨fun m hm => (gw_no_marshal h m hm).elim, kidsOk_gw E h⟩

theorem GN.mono {π : Path} {N N' : List String} {E : List Event} (h : GN okc π N E) (hs : ∀ g ∈ N, g ∈ N') : GN okc π N' E :=
  ⟨fun m hm => by
    obtain ⟨⟨g, i, r, hg, hp⟩, ho⟩ := h.1 m hm
    exact ⟨⟨g, i, r, hs g hg, hp⟩, ho⟩, h.2⟩

/-- events in distinct slots are not each other's children -/
theorem gn_nonchild {π : Path} {N1 N2 : List String} {A B : List Event} (h1 : GN okc π N1 A) (h2 : GN okc π N2 B)
    (hd : ∀ g ∈ N1, g ∉ N2) : ∀ p, .marshal p ∈ A → ∀ c, .marshal c ∈ B → isChild p.path c.path = false := by
  intro p hp c hc
  obtain ⟨⟨f, i, r, hf, hpp⟩, _⟩ := h1.1 p hp
  obtain ⟨⟨g, j, r', hg, hcp⟩, _⟩ := h2.1 c hc
  rw [hpp, hcp]
  exact isChild_false_names π f g i j r r' (fun heq => hd f hf (heq ▸ hg))

theorem GN.append {π : Path} {N1 N2 : List String} {E1 E2 : List Event} (h1 : GN okc π N1 E1) (h2 : GN okc π N2 E2)
    (hd : ∀ g ∈ N1, g ∉ N2) : GN okc π (N1 ++ N2) (E1 ++ E2) := by
  refine ⟨fun m hm => ?_, ?_⟩
  · rcases List.mem_append.mp hm with hm | hm
    · exact (h1.mono (fun g hg => List.mem_append_left _ hg)).1 m hm
    · exact (h2.mono (fun g hg => List.mem_append_right _ hg)).1 m hm
  · exact kidsOk_append E1 E2 h1.2 h2.2 fun p hp _ => bytesRun_nonchild _ _ (gn_nonchild h1 h2 hd p hp)

theorem GN.append_gw {π : Path} {N : List String} {E W : List Event} (h : GN okc π N E) (hw : GW W) : GN okc π N (E ++ W) := by
  have := h.append (GN.of_gw π [] hw) (fun _ _ hg => by cases hg)
  simpa using this

theorem GN.gw_append {π : Path} {N : List String} {W E : List Event} (hw : GW W) (h : GN okc π N E) : GN okc π N (W ++ E) :=
  (GN.of_gw π [] hw).append h (fun _ hg => by cases hg)

theorem GN.of_GD {π : Path} {g : String} {i : Option Nat} {E : List Event} (h : GD okc (π ++ [⟨g, i⟩]) E) : GN okc π [g] E :=
  ⟨fun m hm => by
    obtain ⟨⟨r, hp, _⟩, ho⟩ := h.1 m hm
    exact ⟨⟨g, i, r, List.mem_singleton.mpr rfl, by rw [hp]; simp⟩, ho⟩, h.2⟩

/-- the structure event, then the events in the slots below it -/
theorem GD.of_parent {σ : Path} {N : List String} {E : List Event} (m0 : MEvent) (hp : m0.path = σ)
    (hty : ∀ n, m0.ty ≠ .listOf n) (hv : m0.val = none) (h : GN okc σ N E) : GD okc σ (.marshal m0 :: E) := by
  refine ⟨fun m hm => ?_, ?_⟩
  · rcases List.mem_cons.mp hm with hm | hm
    · cases hm
      exact ⟨⟨[], by simp [hp], fun _ => hty⟩, fun hs => by rw [hv] at hs; cases hs⟩
    · obtain ⟨⟨g, i, r, _, hpp⟩, ho⟩ := h.1 m hm
      exact ⟨⟨⟨g, i⟩ :: r, hpp, fun hr => by cases hr⟩, ho⟩
  · simp only [kidsOk, Bool.and_eq_true]
    refine ⟨?_, h.2⟩
    have : ¬ m0.ty = .listOf "BYTE" := hty "BYTE"
    simp [this]

theorem GD.single {σ : Path} (m0 : MEvent) (hp : m0.path = σ) (hty : ∀ n, m0.ty ≠ .listOf n) (ho : mOk okc m0) :
    GD okc σ [.marshal m0] := by
  refine ⟨fun m hm => ?_, ?_⟩
  · cases List.mem_singleton.mp hm
    exact ⟨⟨[], by simp [hp], fun _ => hty⟩, ho⟩
  · have : ¬ m0.ty = .listOf "BYTE" := hty "BYTE"
    simp [kidsOk, this]

theorem GD.append_gw {σ : Path} {E W : List Event} (h : GD okc σ E) (hw : GW W) : GD okc σ (E ++ W) := by
  refine ⟨fun m hm => ?_, kidsOk_append E W h.2 (kidsOk_gw W hw) (fun p _ _ => bytesRun_gw _ W hw)⟩
  rcases List.mem_append.mp hm with hm | hm
  · exact h.1 m hm
  · exact (gw_no_marshal hw m hm).elim

/-- a list below element `i` has no child among the later elements -/
theorem elem_nonchild {π : Path} {f : String} {i : Nat} {E1 E2 : List Event} (h1 : GD okc (π ++ [⟨f, some i⟩]) E1)
    (h2 : GR okc π f (i + 1) E2) {p : MEvent} (hp : .marshal p ∈ E1) {n : String} (hty : p.ty = .listOf n) {c : MEvent}
    (hc : .marshal c ∈ E2) : isChild p.path c.path = false := by
  obtain ⟨⟨r, hpp, hl⟩, _⟩ := h1.1 p hp
  obtain ⟨⟨j, r', hj, hcp, _⟩, _⟩ := h2.1 c hc
  cases r with
  | nil => exact absurd hty (hl rfl n)
  | cons y ys =>
    rw [hpp, hcp, List.append_assoc]
    exact isChild_false_idx π f i j y ys r' (by omega)

theorem GR.cons {π : Path} {f : String} {i : Nat} {E1 E2 : List Event} (h1 : GD okc (π ++ [⟨f, some i⟩]) E1)
    (h2 : GR okc π f (i + 1) E2) : GR okc π f i (E1 ++ E2) := by
  refine ⟨fun m hm => ?_, ?_⟩
  · rcases List.mem_append.mp hm with hm | hm
    · obtain ⟨⟨r, hp, hl⟩, ho⟩ := h1.1 m hm
      exact ⟨⟨i, r, Nat.le_refl _, by rw [hp]; simp, hl⟩, ho⟩
    · obtain ⟨⟨j, r, hj, hp, hl⟩, ho⟩ := h2.1 m hm
      exact ⟨⟨j, r, by omega, hp, hl⟩, ho⟩
  · exact kidsOk_append E1 E2 h1.2 h2.2 fun p hp hty => bytesRun_nonchild _ _ fun c hc => elem_nonchild h1 h2 hp hty hc

/-- a list: its own event, then its elements -/
theorem GN.list {π : Path} {f : String} {E : List Event} (m0 : MEvent) (hp : m0.path = π ++ [⟨f, none⟩])
    (hv : m0.val = none) (h : GR okc π f 0 E)
    (hb : m0.ty = .listOf "BYTE" → ∀ m, .marshal m ∈ E → m.val.isSome = true) : GN okc π [f] (.marshal m0 :: E) := by
  refine ⟨fun m hm => ?_, ?_⟩
  · rcases List.mem_cons.mp hm with hm | hm
    · cases hm
      exact ⟨⟨f, none, [], List.mem_singleton.mpr rfl, by rw [hp]⟩, fun hs => by rw [hv] at hs; cases hs⟩
    · obtain ⟨⟨j, r, _, hpp, _⟩, ho⟩ := h.1 m hm
      exact ⟨⟨f, some j, r, List.mem_singleton.mpr rfl, hpp⟩, ho⟩
  · simp only [kidsOk, Bool.and_eq_true]
    refine ⟨?_, h.2⟩
    by_cases hty : m0.ty = .listOf "BYTE"
    · simp only [hty, if_true]
      exact bytesRun_of_kids _ E fun m hm _ => hb hty m hm
    · simp only [hty, if_false]

end

theorem Tr.ok_emit1 {α : Type} {P : List Event → Prop} (s : St) (a : α) (e : Event) (hp : P [e]) :
    Tr P s (.ok (a, emit e s) : R α) := ⟨[(s.pos, e)], rfl, hp⟩
theorem Tr.ok_emit2 {α : Type} {P : List Event → Prop} (s : St) (a : α) (e1 e2 : Event) (hp : P [e1, e2]) :
    Tr P s (.ok (a, emit e2 (emit e1 s)) : R α) := ⟨[(s.pos, e1), (s.pos, e2)], by simp [emit, stOf], hp⟩

/-- the new events are determined by the run: two facts about them can be combined -/
theorem Tr.and {α : Type} {P Q : List Event → Prop} {s : St} {r : R α} (hp : Tr P s r) (hq : Tr Q s r) :
    Tr (fun E => P E ∧ Q E) s r := by
  obtain ⟨n1, o1, p1⟩ := hp
  obtain ⟨n2, o2, p2⟩ := hq
  have : n1 = n2 := List.append_cancel_left (o1.symm.trans o2)
  subst this
  exact ⟨n1, o1, p1, p2⟩

def AV (E : List Event) : Prop := ∀ m, .marshal m ∈ E → m.val.isSome = true

theorem AV.of_gw {E : List Event} (h : GW E) : AV E := fun m hm => (gw_no_marshal h m hm).elim
theorem AV.nil : AV [] := fun _ hm => by cases hm
theorem AV.append {a b : List Event} (ha : AV a) (hb : AV b) : AV (a ++ b) := by
  intro m hm
  rcases List.mem_append.mp hm with h | h
  · exact ha m h
  · exact hb m h

theorem elemPath_snoc' (π : Path) (f : String) (i : Nat) : elemPath (π ++ [⟨f, none⟩]) i = π ++ [⟨f, some i⟩] := by
  simp [elemPath]

/-- the link between the (decidable) side condition `pk` on primitive types and what is claimed of their value events:
in strict mode only valid values are shown -/
def PrimLink (abort : Bool) (pk : Prim → Bool) (okc : MEvent → Prop) : Prop :=
  ∀ p, pk p = true → ∀ σ x, (abort = true → p.isValid x = true) → okc ⟨σ, .named p.name false, some x, p.name, p.size⟩

section
variable {okc : MEvent → Prop} {pk : Prim → Bool} (abort : Bool)

/-- what `readPrim abort p σ` adds to the trace: nothing, and then it failed (`ok`: it returned); or the field event with the
value read, in strict mode a valid one, after which only warnings (in warn mode, that the value is invalid) -/
def PrimEv (p : Prim) (σ : Path) (ok : Prop) (E : List Event) : Prop :=
  (E = [] ∧ ¬ ok) ∨
  ∃ x W, (abort = true → p.isValid x = true) ∧ GW W ∧ E = .marshal ⟨σ, .named p.name false, some x, p.name, p.size⟩ :: W

theorem readPrim_ev (p : Prim) (σ : Path) (s : St) :
    Tr (PrimEv abort p σ (∃ v t, readPrim abort p σ s = .ok (v, t))) s (readPrim abort p σ s) := by
  unfold readPrim
  have failed : ∀ e, PrimEv abort p σ (∃ v t, (.error e : R Val) = .ok (v, t)) [] := fun e => .inl ⟨rfl, fun ⟨_, _, h⟩ => nomatch h⟩
  refine Tr.quiet_bind (Q := fun r => PrimEv abort p σ (∃ v t, r = .ok (v, t))) (bytesParsed_out σ p.size s) (fun _ t => ?_) failed
  refine Tr.quiet_bind (Q := fun r => PrimEv abort p σ (∃ v t, r = .ok (v, t))) (take_out p.size t) (fun bs t2 => ?_) failed
  simp only []
  split
  · rename_i hvalid
    exact Tr.ok_emit1 _ _ _ (.inr ⟨_, [], fun _ => hvalid, GW.nil, rfl⟩)
  · split
    · exact Tr.quiet rfl (failed _)
    · rename_i hab
      exact Tr.ok_emit2 _ _ _ _ (.inr ⟨_, [_], fun ha => absurd ha hab, GW.cons_w _ GW.nil, rfl⟩)

variable {abort}

theorem PrimEv.av {p : Prim} {σ : Path} {ok : Prop} {E : List Event} : PrimEv abort p σ ok E → AV E := by
  rintro (⟨rfl, _⟩ | ⟨x, W, _, hw, rfl⟩)
  · exact AV.nil
  · exact AV.append (a := [_]) (fun m hm => by cases List.mem_singleton.mp hm; rfl) (AV.of_gw hw)

theorem PrimEv.gd (hpk : PrimLink abort pk okc) {p : Prim} (hp : pk p = true) {σ : Path} {ok : Prop} {E : List Event} :
    PrimEv abort p σ ok E → GD okc σ E := by
  rintro (⟨rfl, _⟩ | ⟨x, W, hv, hw, rfl⟩)
  · exact GD.of_gw σ GW.nil
  · exact GD.append_gw (E := [_]) (GD.single _ rfl (fun n h => by cases h) fun _ => hpk p hp σ x hv) hw

variable (abort)

theorem readPrim_gd (hpk : PrimLink abort pk okc) (p : Prim) (hp : pk p = true) (σ : Path) (s : St) :
    Tr (GD okc σ) s (readPrim abort p σ s) := (readPrim_ev abort p σ s).mono fun _ => PrimEv.gd hpk hp

theorem readPrim_av (p : Prim) (σ : Path) (s : St) : Tr AV s (readPrim abort p σ s) := (readPrim_ev abort p σ s).mono fun _ => PrimEv.av

/-- the element loop: `D i` of element `i`, `L i` of the elements from `i` on -/
theorem repeatDec_each {D L : Nat → List Event → Prop} (d : Path → St → R Val) (path : Path)
    (hd : ∀ i s, Tr (D i) s (d (elemPath path i) s)) (hnil : ∀ i, L i [])
    (hcons : ∀ i E1 E2, D i E1 → L (i + 1) E2 → L i (E1 ++ E2)) :
    ∀ (n i : Nat) (s : St), Tr (L i) s (repeatDec d path n i s) := by
  intro n
  induction n with
  | zero => intro i s; exact Tr.quiet rfl (hnil i)
  | succ k ih =>
    intro i s
    unfold repeatDec
    refine (hd i s).bind (fun v t _ => (ih (i + 1) t).bind_quiet fun _ _ => rfl) (fun E h => ?_) (hcons i)
    have := hcons i E [] h (hnil _)
    simpa using this

theorem repeatDec_av (d : Path → St → R Val) (path : Path) (hd : ∀ p s, Tr AV s (d p s)) :
    ∀ (n i : Nat) (s : St), Tr AV s (repeatDec d path n i s) :=
  repeatDec_each (D := fun _ => AV) (L := fun _ => AV) d path (fun _ s => hd _ s) (fun _ => AV.nil) (fun _ _ _ => AV.append)

/-- a list event followed by the events of its elements -/
theorem list_gn (π : Path) (f : String) (tn : String) (s : St) {β : Type} (r : R β)
    (hr : Tr (GR okc π f 0) (emitM ⟨π ++ [⟨f, none⟩], .listOf tn, none, "", 0⟩ s) r)
    (hb : tn = "BYTE" → Tr AV (emitM ⟨π ++ [⟨f, none⟩], .listOf tn, none, "", 0⟩ s) r) :
    Tr (GN okc π [f]) s r := by
  by_cases htn : tn = "BYTE"
  · refine Tr.of_emit _ (hr.and (hb htn)) (fun E hE => ?_)
    exact GN.list _ rfl rfl hE.1 (fun _ => hE.2)
  · refine Tr.of_emit _ hr (fun E hE => ?_)
    exact GN.list _ rfl rfl hE (fun hty => by simp only [TyTag.listOf.injEq] at hty; exact absurd hty htn)

/-- `process_array`: the list's own event, its elements, then the value -/
theorem repeatList_gn (d : Path → St → R Val) (π : Path) (f tn : String)
    (hd : ∀ i s, Tr (GD okc (π ++ [⟨f, some i⟩])) s (d (π ++ [⟨f, some i⟩]) s)) (hb : tn = "BYTE" → ∀ p s, Tr AV s (d p s))
    (n : Nat) (s : St) :
    Tr (GN okc π [f]) s ((repeatDec d (π ++ [⟨f, none⟩]) n 0 (emitM ⟨π ++ [⟨f, none⟩], .listOf tn, none, "", 0⟩ s)).bind
      fun vs s => .ok (Val.list vs, s)) :=
  list_gn π f tn s _
    ((repeatDec_each d _ (fun i s => by rw [elemPath_snoc']; exact hd i s) (fun i => GR.of_gw π f i GW.nil) (fun _ _ _ => GR.cons)
      n 0 _).bind_quiet fun _ _ => rfl)
    fun htn => (repeatDec_av d _ (hb htn) n 0 _).bind_quiet fun _ _ => rfl

theorem readPrimList_gn (hpk : PrimLink abort pk okc) (p : Prim) (hp : pk p = true) (π : Path) (f : String) (n : Nat) (s : St) :
    Tr (GN okc π [f]) s (readPrimList abort p (π ++ [⟨f, none⟩]) n s) :=
  repeatList_gn _ π f p.name (fun _ s => readPrim_gd abort hpk p hp _ s) (fun _ q s => readPrim_av abort p q s) n s
end

theorem named_ne_list (a : String) (b : Bool) (n : String) : TyTag.named a b ≠ TyTag.listOf n := by
  intro h; cases h

/-! ## side conditions on the layouts -/

def Ty.isPrimTy : Ty → Bool
  | .prim _ => true
  | _ => false

mutual
def Ty.shapeOk (pk : Prim → Bool) : Ty → Bool
  | .prim p => pk p
  | .struct _ _ fs => fs.shapeOk pk && decide (fs.names.Nodup)
  | .tpm2bBytes _ sz szP buf elem => pk szP && pk elem && decide (sz ≠ buf)
  | .tpm2b _ sz szP buf body => pk szP && decide (sz ≠ buf) && body.shapeOk pk
  | .union _ arms => arms.shapeOk pk
  | .bad _ => true
def Fields.shapeOk (pk : Prim → Bool) : Fields → Bool
  | .nil => true
  | .cons _ kind t rest =>
    t.shapeOk pk && (match kind with | .counted => (t.isPrimTy || decide (t.name ≠ "BYTE")) | _ => true) && rest.shapeOk pk
def Arms.shapeOk (pk : Prim → Bool) : Arms → Bool
  | .nil => true
  | .consNone _ _ rest => rest.shapeOk pk
  | .cons _ _ t rest => t.shapeOk pk && rest.shapeOk pk
  | .consBytes _ _ elem _ rest => pk elem && rest.shapeOk pk
end

section
variable {okc : MEvent → Prop} {pk : Prim → Bool} (abort : Bool)

/-- chaining steps whose events lie in disjoint slots below `π` -/
theorem Tr.bind_gn {α β : Type} {π : Path} {N1 N2 : List String} {s : St} {r : R α} {f : α → St → R β}
    (h : Tr (GN okc π N1) s r) (hf : ∀ a t, r = .ok (a, t) → Tr (GN okc π N2) t (f a t)) (hd : ∀ g ∈ N1, g ∉ N2) :
    Tr (GN okc π (N1 ++ N2)) s (r.bind f) :=
  h.bind hf (fun _ h1 => h1.mono (fun g hg => List.mem_append_left _ hg)) (fun _ _ h1 h2 => h1.append h2 hd)

/-- `ownCatch` / `msgCatch` in warn mode: a caught overrun becomes one more warning -/
theorem Tr.ownCatch {P1 P2 P : List Event → Prop} {s : St} {r : R Val} {k : Val → St → R Val} (id : Nat) (h : Tr P1 s r)
    (hk : ∀ v t, r = .ok (v, t) → Tr P2 t (k v t)) (h1 : ∀ E, P1 E → P E)
    (h1w : ∀ E w, P1 E → P (E ++ [.warning w])) (h12 : ∀ E1 E2, P1 E1 → P2 E2 → P (E1 ++ E2)) :
    Tr P s (ownCatch abort id r k) := by
  unfold _root_.ownCatch
  split
  · split
    · exact h.mono h1
    · exact h.caught _ _ (h1w · _)
  · exact h.mono h1
  · exact h.bind hk h1 h12

theorem decodeFieldWith_gn (d : Path → Option Int → St → R Val) (tname : String)
    (hd : ∀ σ sel s, Tr (GD okc σ) s (d σ sel s)) (kind : FKind)
    (hb : kind = .counted → tname = "BYTE" → ∀ σ sel s, Tr AV s (d σ sel s)) (π : Path) (f : String) (vals : List (String × Val)) (s : St) :
    Tr (GN okc π [f]) s (decodeFieldWith d tname kind (π ++ [⟨f, none⟩]) vals s) := by
  cases kind with
  | plain => exact (hd _ none s).mono (fun _ h => GN.of_GD h)
  | selected sel =>
    simp only [decodeFieldWith]
    split
    · exact Tr.quiet rfl (GN.of_gw π [f] GW.nil)
    · exact (hd _ _ s).mono (fun _ h => GN.of_GD h)
  | counted =>
    simp only [decodeFieldWith]
    split
    · exact Tr.quiet rfl (GN.of_gw π [f] GW.nil)
    · rename_i c _
      exact repeatList_gn _ π f tname (fun _ s => hd _ none s) (fun htn q s => hb rfl htn q none s) c s

/-- a counted field of element type `BYTE` is a list of the primitive: its elements' events carry values -/
theorem decode_av_counted {kind : FKind} {t : Ty}
    (h : (match kind with | .counted => (t.isPrimTy || decide (t.name ≠ "BYTE")) | _ => true) = true) (hk : kind = .counted)
    (hn : t.name = "BYTE") (σ : Path) (sel : Option Int) (s : St) : Tr AV s (decode abort t σ sel s) := by
  subst hk
  cases t with
  | prim p => simp only [decode]; exact readPrim_av abort p σ s
  | _ => simp [Ty.isPrimTy, hn] at h

theorem gn_nil_of_gw {π : Path} {E : List Event} (h : GW E) : GN okc π [] E := GN.of_gw π [] h

/-- a structure's own event, then the events in its slots -/
theorem Tr.own_gd {α : Type} {σ : Path} {N : List String} {name : String} {enc : Bool} {s : St} {r : R α}
    (h : Tr (GN okc σ N) (emitM ⟨σ, .named name enc, none, "", 0⟩ s) r) : Tr (GD okc σ) s r :=
  Tr.of_emit _ h fun _ => GD.of_parent _ rfl (fun n => named_ne_list _ _ n) rfl

/-- the frame of a `TPM2B`: its own event, the size field, the region this opens, then `rest` in the buffer's slot -/
theorem tpm2b_gd (hpk : PrimLink abort pk okc) {szP : Prim} (hsz : pk szP = true) {name szName bufName : String}
    (hne : szName ≠ bufName) (σ : Path) (s : St) {rest : Val → St → St → R Val}
    (hrest : ∀ nv t t2, Tr (GN okc σ [bufName]) t2 (rest nv t t2)) :
    Tr (GD okc σ) s ((readPrim abort szP (σ ++ [⟨szName, none⟩]) (emitM ⟨σ, .named name false, none, "", 0⟩ s)).bind fun nv t =>
      if nv.asInt?.getD 0 < 0 then crash "AssertionError" "set_constraint: size_max < 0" t else
      (openRegion abort t.pos (σ ++ [⟨szName, none⟩]) (nv.asInt?.getD 0).toNat t).bind fun _ t2 => rest nv t t2) := by
  refine Tr.own_gd (N := [szName] ++ [bufName]) (Tr.bind_gn ((readPrim_gd abort hpk szP hsz _ _).mono fun _ => GN.of_GD)
    (fun nv t _ => ?_) fun g hg hg2 => hne ((List.mem_singleton.mp hg).symm.trans (List.mem_singleton.mp hg2)))
  split
  · exact Tr.quiet rfl (GN.of_gw σ _ GW.nil)
  · exact (openRegion_gw abort _ _ _ t).bind (fun _ t2 _ => hrest nv t t2) (fun _ => GN.of_gw σ _) (fun _ _ => GN.gw_append)

mutual
theorem decode_gd (hpk : PrimLink abort pk okc) : (t : Ty) → t.shapeOk pk = true → ∀ (σ : Path) (sel : Option Int) (s : St),
    Tr (GD okc σ) s (decode abort t σ sel s)
  | .prim p, h, σ, sel, s => by
    simp only [decode]
    exact readPrim_gd abort hpk p (by simpa [Ty.shapeOk] using h) σ s
  | .struct name isP fs, h, σ, sel, s => by
    simp only [Ty.shapeOk, Bool.and_eq_true, decide_eq_true_eq] at h
    simp only [decode]
    exact Tr.own_gd ((decodeFields_gn hpk fs h.1 h.2 σ [] _).bind_quiet fun _ _ => rfl)
  | .tpm2bBytes name szName szP bufName elem, h, σ, sel, s => by
    simp only [Ty.shapeOk, Bool.and_eq_true, decide_eq_true_eq] at h
    simp only [decode]
    exact tpm2b_gd abort hpk h.1.1 h.2 σ s fun nv t t2 =>
      (readPrimList_gn abort hpk elem h.1.2 σ bufName _ t2).bind
        (fun bv t3 _ => (assertDone_gw abort _ t3).bind_quiet fun _ _ => rfl) (fun _ hh => hh) (fun _ _ => GN.append_gw)
  | .tpm2b name szName szP bufName body, h, σ, sel, s => by
    simp only [Ty.shapeOk, Bool.and_eq_true, decide_eq_true_eq] at h
    simp only [decode]
    refine tpm2b_gd abort hpk h.1.1 h.1.2 σ s fun nv t t2 => ?_
    split
    · -- absent body: one structure event in the buffer's slot
      have hev : GN okc σ [bufName] [.marshal ⟨σ ++ [⟨bufName, none⟩], body.eventTag, none, "", 0⟩] :=
        GN.of_GD (GD.single _ rfl (fun n => by cases body <;> exact named_ne_list _ _ n) (fun hs => by cases hs))
      exact (Tr.of_emit (P := GW) _ (assertDone_gw abort _ _) fun _ => hev.append_gw).bind_quiet fun _ _ => rfl
    · exact Tr.ownCatch abort _ ((decode_gd hpk body h.2 _ none t2).mono fun _ => GN.of_GD)
        (fun bv t3 _ => (assertDone_gw abort _ t3).bind_quiet fun _ _ => rfl)
        (fun _ hh => hh) (fun _ w hh => hh.append_gw (GW.cons_w w GW.nil)) (fun _ _ => GN.append_gw)
  | .union name arms, h, σ, sel, s => by
    simp only [Ty.shapeOk] at h
    simp only [decode]
    split
    · refine Tr.own_gd (N := []) (name := name) (enc := false) ?_
      split
      · exact Tr.quiet rfl (GN.of_gw σ [] GW.nil)
      · exact Tr.quiet rfl (GN.of_gw σ [] GW.nil)
    · rename_i an _
      exact Tr.own_gd (decodeArm_gn hpk arms h name an σ _)
  | .bad _, _, σ, sel, s => by
    simp only [decode]
    exact Tr.quiet rfl (GD.of_gw σ GW.nil)

theorem decodeArm_gn (hpk : PrimLink abort pk okc) : (arms : Arms) → arms.shapeOk pk = true → ∀ (un want : String) (σ : Path) (s : St),
    Tr (GN okc σ [want]) s (decodeArm abort arms un want σ s)
  | .nil, _, un, want, σ, s => by
    simp only [decodeArm]
    exact Tr.quiet rfl (GN.of_gw σ _ GW.nil)
  | .consNone an k rest, h, un, want, σ, s => by
    simp only [Arms.shapeOk] at h
    simp only [decodeArm]
    split
    · exact Tr.quiet rfl (GN.of_gw σ _ GW.nil)
    · exact decodeArm_gn hpk rest h un want σ s
  | .cons an k t rest, h, un, want, σ, s => by
    simp only [Arms.shapeOk, Bool.and_eq_true] at h
    simp only [decodeArm]
    split
    · rename_i heq
      subst heq
      exact ((decode_gd hpk t h.1 _ none s).mono fun _ => GN.of_GD).bind_quiet fun _ _ => rfl
    · exact decodeArm_gn hpk rest h.2 un want σ s
  | .consBytes an k elem n rest, h, un, want, σ, s => by
    simp only [Arms.shapeOk, Bool.and_eq_true] at h
    simp only [decodeArm]
    split
    · rename_i heq
      subst heq
      refine Tr.bind_quiet ?_ fun _ _ => rfl
      unfold readListArm
      split
      · exact Tr.quiet rfl (GN.of_gw σ _ GW.nil)
      · exact readPrimList_gn abort hpk elem h.1 σ an _ s
    · exact decodeArm_gn hpk rest h.2 un want σ s

theorem decodeFields_gn (hpk : PrimLink abort pk okc) : (fs : Fields) → fs.shapeOk pk = true → fs.names.Nodup → ∀ (π : Path) (vals : List (String × Val))
    (s : St), Tr (GN okc π fs.names) s (decodeFields abort fs π vals s)
  | .nil, _, _, π, vals, s => by
    simp only [decodeFields]
    exact Tr.quiet rfl (GN.of_gw π _ GW.nil)
  | .cons fname kind t rest, h, hnd, π, vals, s => by
    simp only [Fields.shapeOk, Bool.and_eq_true] at h
    simp only [Fields.names, List.nodup_cons] at hnd
    simp only [decodeFields]
    exact Tr.bind_gn (N1 := [fname]) (N2 := rest.names)
      (decodeFieldWith_gn (fun p sel s => decode abort t p sel s) t.name (fun σ sel s => decode_gd hpk t h.1.1 σ sel s)
        kind (decode_av_counted abort h.1.2) π fname vals s)
      (fun v t2 _ => decodeFields_gn hpk rest h.2 hnd.2 π (vals ++ [(fname, v)]) t2)
      (fun g hg => List.mem_singleton.mp hg ▸ hnd.1)
end
end
