import TpmProofs.Transport
import TpmModel.Root
/-!
# Decoding below a caller-supplied root path = decoding at the default root, re-rooted

`Binary.marshal(..., root_path=R)` hands `R` to the walker as its start path.  Every path the walkers emit — in events, in the
errors' details, in the size regions they keep — is the start path extended by field names and element indices, so replacing
the start path replaces a prefix and nothing else.  Stated as an equation: with `f p = R ++ p.drop 1` (swap the one-node default
root for `R`), `mapSt f` / `mapR f` the re-rooting of a state / a result,

    decode abort t (f path) sel (mapSt f s) = mapR f (decode abort t path sel s)

for every walker (either mode), every layout, every state and input — and likewise for commands, responses and streams.
-/

section
variable (f : Path → Path)

def mapErr : Err → Err
  | .value p ty x => .value (f p) ty x
  | .valueNone p ty => .valueNone (f p) ty
  | .exceeded cid cp m a v b => .exceeded cid (f cp) m a (f v) b
  | .subceeded cid cp m a => .subceeded cid (f cp) m a
  | .anticipated cid cp m a v x b => .anticipated cid (f cp) m a (f v) x b
  | .depleted => .depleted
  | .crash c s => .crash c s

def mapEv : Event → Event
  | .marshal m => .marshal { m with path := f m.path }
  | .warning e => .warning (mapErr f e)

def mapSC (c : SC) : SC := { c with path := f c.path }

def mapSt (s : St) : St := { s with out := s.out.map fun ke => (ke.1, mapEv f ke.2), scs := s.scs.map (mapSC f) }

def mapR {α : Type} : R α → R α
  | .ok (a, s) => .ok (a, mapSt f s)
  | .error (e, s) => .error (mapErr f e, mapSt f s)

variable {f}

@[simp] theorem mapSt_pos (s : St) : (mapSt f s).pos = s.pos := rfl
@[simp] theorem mapSt_inp (s : St) : (mapSt f s).inp = s.inp := rfl
@[simp] theorem mapSt_scs (s : St) : (mapSt f s).scs = s.scs.map (mapSC f) := rfl

theorem mapSt_withScs (s : St) (scs : List SC) : { mapSt f s with scs := scs.map (mapSC f) } = mapSt f { s with scs := scs } := rfl

/-! Re-rooting is the transport that moves nothing and puts nothing behind the input. -/

theorem mapErr_eq (e : Err) : mapErr f e = (⟨f, 0, [], []⟩ : Tp).err e := by
  cases e <;> rfl

theorem mapEv_eq (e : Event) : mapEv f e = (⟨f, 0, [], []⟩ : Tp).ev e := by
  cases e with
  | marshal m => rfl
  | warning e => exact congrArg Event.warning (mapErr_eq e)

theorem mapSt_eq_st (s : St) : mapSt f s = (⟨f, 0, [], []⟩ : Tp).st s := by
  simp only [mapSt, Tp.st, mapEv_eq, List.append_nil]; rfl

theorem mapR_eq_r {α : Type} (r : R α) : mapR f r = (⟨f, 0, [], []⟩ : Tp).r r := by
  cases r with
  | ok at' => simp only [mapR, Tp.r, mapSt_eq_st]
  | error et => simp only [mapR, Tp.r, mapSt_eq_st, mapErr_eq]

theorem map_of_rel {α : Type} {r r' : R α} (h : (⟨f, 0, [], []⟩ : Tp).Rel r' r) : r' = mapR f r :=
  (h (Or.inl rfl)).trans (mapR_eq_r r).symm
end

/-! ## re-rooting: swap the one-node default root for `R` -/

def rr (Rt : Path) : Path → Path
  | [] => []                       -- (the placeholder path of a message's region before its size field is read)
  | _ :: rest => Rt ++ rest

theorem rr_ext (Rt : Path) {p : Path} (h : 1 ≤ p.length) : Ext (rr Rt) p := fun q => by
  cases p with
  | nil => simp at h
  | cons a rest => simp [rr, List.append_assoc]

theorem rr_root (Rt : Path) : rr Rt rootPath = Rt := by simp [rr, rootPath]

theorem rr_nil (Rt : Path) : rr Rt [] = [] := rfl

section
variable (Rt : Path)

theorem decode_map (abort : Bool) : (t : Ty) → ∀ (path : Path), 1 ≤ path.length → ∀ (sel : Option Int) (s : St),
    decode abort t (rr Rt path) sel (mapSt (rr Rt) s) = mapR (rr Rt) (decode abort t path sel s) := fun t path hp sel s => by
  rw [mapSt_eq_st]; exact map_of_rel (Tp.decode_rel abort t path (rr_ext Rt hp) sel s)

theorem arm_map (abort : Bool) : (arms : Arms) → ∀ (un want : String) (path : Path), 1 ≤ path.length → ∀ (s : St),
    decodeArm abort arms un want (rr Rt path) (mapSt (rr Rt) s) = mapR (rr Rt) (decodeArm abort arms un want path s) :=
  fun arms un want path hp s => by
  rw [mapSt_eq_st]; exact map_of_rel (Tp.arm_rel abort arms un want path (rr_ext Rt hp) s)

theorem decodeCommand_map (abort : Bool) (tb : MsgTables) (path : Path) (hp : 1 ≤ path.length) (s0 : St) :
    decodeCommand abort tb (rr Rt path) (mapSt (rr Rt) s0) = mapR (rr Rt) (decodeCommand abort tb path s0) := by
  rw [mapSt_eq_st]; exact map_of_rel (Tp.decodeCommand_rel (rr_nil Rt) abort tb (rr_ext Rt hp) s0)

theorem decodeResponse_map (abort : Bool) (tb : MsgTables) (cc : Option Int) (enc : Bool) (path : Path) (hp : 1 ≤ path.length) (s0 : St) :
    decodeResponse abort tb cc enc (rr Rt path) (mapSt (rr Rt) s0) = mapR (rr Rt) (decodeResponse abort tb cc enc path s0) := by
  rw [mapSt_eq_st]; exact map_of_rel (Tp.decodeResponse_rel (rr_nil Rt) abort tb cc enc (rr_ext Rt hp) s0)

theorem decodeStream_map (abort : Bool) (tb : MsgTables) (path : Path) (hp : 1 ≤ path.length) : ∀ (fuel : Nat) (s : St),
    decodeStream abort tb (rr Rt path) fuel (mapSt (rr Rt) s) = mapR (rr Rt) (decodeStream abort tb path fuel s) := fun fuel s => by
  rw [mapSt_eq_st]; exact map_of_rel (Tp.decodeStream_rel (rr_nil Rt) rfl abort tb (rr_ext Rt hp) fuel s)
end


/-! ## the whole run below a caller-supplied root -/

theorem initSt_map (f : Path → Path) (x : List Byte) : mapSt f (initSt x) = initSt x := rfl

theorem runWalkerAt_rr (abort : Bool) (tb : MsgTables) (top : Top) (Rt : Path) (x : List Byte) :
    runWalkerAt abort tb top Rt x = mapR (rr Rt) (runWalker abort tb top x) := by
  unfold runWalkerAt runWalker
  have hr : 1 ≤ rootPath.length := by simp [rootPath]
  cases top with
  | ty t => simpa [rr_root, initSt_map] using decode_map Rt abort t rootPath hr none (initSt x)
  | command => simpa [rr_root, initSt_map] using decodeCommand_map Rt abort tb rootPath hr (initSt x)
  | response cc enc => simpa [rr_root, initSt_map] using decodeResponse_map Rt abort tb cc enc rootPath hr (initSt x)
  | stream => simpa [rr_root, initSt_map] using decodeStream_map Rt abort tb rootPath hr (x.length + 1) (initSt x)

def mapOutcome (f : Path → Path) : Outcome → Outcome
  | .raised e rem => .raised (mapErr f e) rem
  | o => o

def mapRun (f : Path → Path) (r : Run) : Run :=
  ⟨r.events.map fun ke => (ke.1, mapEv f ke.2), mapOutcome f r.outcome, r.cc⟩

/-- every field / structure event of the trace lies at or below the default root -/
def Rooted (trace : List (Nat × Event)) : Prop := ∀ ke ∈ trace, ∀ m, ke.2 = .marshal m → ∃ r, m.path = rootPath ++ r

theorem rr_rooted (Rt : Path) (r : Path) : rr Rt (rootPath ++ r) = Rt ++ r := by simp [rr, rootPath]

theorem isRootEllipsisAt_rr (Rt : Path) (e : Event) (h : ∀ m, e = .marshal m → ∃ r, m.path = rootPath ++ r) :
    isRootEllipsisAt Rt (mapEv (rr Rt) e) = isRootEllipsis e := by
  cases e with
  | warning w => rfl
  | marshal m =>
    obtain ⟨r, hm⟩ := h m rfl
    simp only [isRootEllipsisAt, isRootEllipsis, mapEv, hm, rr_rooted]
    congr 1
    cases r with
    | nil => simp
    | cons a t => simp [rootPath]

theorem ccOfAt_rr (Rt : Path) (e : Event) (h : ∀ m, e = .marshal m → ∃ r, m.path = rootPath ++ r) (cc : Option Int) :
    ccOfAt Rt (mapEv (rr Rt) e) cc = ccOf e cc := by
  cases e with
  | warning w => rfl
  | marshal m =>
    obtain ⟨r, hm⟩ := h m rfl
    simp only [ccOfAt, ccOf, mapEv, hm, rr_rooted]
    have h1 : ∀ p : Path, (p ++ r == p ++ [(⟨"commandCode", none⟩ : PathNode)]) = (r == [(⟨"commandCode", none⟩ : PathNode)]) := by
      intro p; rw [Bool.eq_iff_iff]; simp
    rw [h1, h1]

theorem pumpEventsAt_map (Rt : Path) (isStream : Bool) (len : Nat) : ∀ (trace acc : List (Nat × Event)) (cc : Option Int),
    Rooted trace →
    pumpEventsAt Rt isStream len (trace.map fun ke => (ke.1, mapEv (rr Rt) ke.2)) (acc.map fun ke => (ke.1, mapEv (rr Rt) ke.2)) cc =
      ((pumpEvents isStream len trace acc cc).1.map (fun ke => (ke.1, mapEv (rr Rt) ke.2)),
       (pumpEvents isStream len trace acc cc).2.1, (pumpEvents isStream len trace acc cc).2.2) := by
  intro trace
  induction trace with
  | nil => intro acc cc _; rfl
  | cons ke rest ih =>
    intro acc cc hr
    obtain ⟨k, e⟩ := ke
    have he := hr (k, e) (by simp)
    simp only [List.map_cons, pumpEventsAt, pumpEvents, isRootEllipsisAt_rr Rt e he, ccOfAt_rr Rt e he]
    split
    · rfl
    · have := ih (acc ++ [(min (k + 1) len, e)]) (ccOf e cc) (fun ke hke => hr ke (by simp [hke]))
      simpa [List.map_append] using this

theorem pumpOutcome_map (f : Path → Path) (x : List Byte) (r : R Val) :
    pumpOutcome x (stOf (mapR f r)).pos (resOf (mapR f r)) = mapOutcome f (pumpOutcome x (stOf r).pos (resOf r)) := by
  cases r with
  | ok vs =>
    obtain ⟨v, s⟩ := vs
    simp only [mapR, stOf, resOf, pumpOutcome, mapSt_pos]
    by_cases h : s.pos < x.length <;> simp [h, mapOutcome]
  | error es =>
    obtain ⟨e, s⟩ := es
    cases e <;> rfl

/-- **decoding below a caller-supplied root** (either mode, any tables, every layout, commands, responses, streams, every input whose
default-root trace is rooted — which every decoder trace is): the whole observation is the default-root observation re-rooted; in
particular a stream ends silently below `R` exactly when it does at the default root -/
theorem marshalRunAt_rr (abort : Bool) (tb : MsgTables) (top : Top) (Rt : Path) (x : List Byte)
    (hr : Rooted (stOf (runWalker abort tb top x)).out) :
    marshalRunAt abort tb top Rt x = mapRun (rr Rt) (marshalRun abort tb top x) := by
  unfold marshalRunAt marshalRun pumpAt pump
  rw [runWalkerAt_rr]
  have hout : (stOf (mapR (rr Rt) (runWalker abort tb top x))).out =
      (stOf (runWalker abort tb top x)).out.map fun ke => (ke.1, mapEv (rr Rt) ke.2) := by
    cases runWalker abort tb top x with
    | ok vs => rfl
    | error es => rfl
  have hp := pumpEventsAt_map Rt top.isStream x.length (stOf (runWalker abort tb top x)).out [] none hr
  simp only [List.map_nil] at hp
  simp only [hout, hp, pumpOutcome_map, mapRun]
  congr 1
  split <;> rfl
