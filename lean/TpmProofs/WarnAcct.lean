import TpmProofs.Trace
/-!
# Warn mode accounts for every input byte (C08 tiling, C02 in warn mode)

`AcctW s r`: in a warn-mode step from `s`, the input consumed is, in order, one segment per event emitted: for a field
event exactly the bytes of its value at its declared width; for a warning about a sized region (`exceeded`: the skipped
rest of the overrun region — exactly `max − already` bytes; `subceeded`: the padding up to the region's declared end)
the bytes skipped on its account; for any other warning (out-of-range value, anticipated overrun) nothing.  If the step
stops with an error there may be bytes consumed but not yet accounted (`off`: the rest of a region whose overrun is
still on its way to the region's owner, or what was there when the input ran out).
-/

/-- may the segment `seg` of consumed input be attributed to event `e`? -/
def SegOf (e : Event) (seg : List Byte) : Prop :=
  match e with
  | .marshal m => seg = m.bytes
  | .warning (.exceeded _ _ mx al _ _) => seg.length = mx - al
  | .warning (.subceeded _ _ mx al) => seg.length ≤ mx - al
  | .warning _ => seg = []

/-- events and their segments, aligned -/
inductive Segs : List (Nat × Event) → List (List Byte) → Prop
  | nil : Segs [] []
  | cons {ke : Nat × Event} {seg : List Byte} {evs : List (Nat × Event)} {segs : List (List Byte)} :
      SegOf ke.2 seg → Segs evs segs → Segs (ke :: evs) (seg :: segs)

theorem Segs.append {a b : List (Nat × Event)} {sa sb : List (List Byte)} (ha : Segs a sa) (hb : Segs b sb) :
    Segs (a ++ b) (sa ++ sb) := by
  induction ha with
  | nil => exact hb
  | cons h _ ih => exact Segs.cons h ih

theorem Segs.single {ke : Nat × Event} {seg : List Byte} (h : SegOf ke.2 seg) : Segs [ke] [seg] := Segs.cons h Segs.nil

def AcctW {α : Type} (s : St) (r : R α) : Prop :=
  ∃ (new : List (Nat × Event)) (segs : List (List Byte)) (off : List Byte),
    (stOf r).out = s.out ++ new ∧ Segs new segs ∧
    s.inp = segs.flatten ++ off ++ (stOf r).inp ∧
    (isOkR r = true → off = []) ∧
    (∀ cid cp m a v b t, r = .error (.exceeded cid cp m a v b, t) → off.length = m - a)

theorem AcctW.quiet {α : Type} {s : St} {r : R α} (hi : (stOf r).inp = s.inp) (ho : (stOf r).out = s.out)
    (hne : ∀ cid cp m a v b t, r ≠ .error (.exceeded cid cp m a v b, t)) : AcctW s r :=
  ⟨[], [], [], by simp [ho], Segs.nil, by simp [hi], fun _ => rfl, fun cid cp m a v b t h => absurd h (hne _ _ _ _ _ _ _)⟩

theorem acctw_ok {α : Type} (s : St) (a : α) : AcctW s (.ok (a, s) : R α) :=
  AcctW.quiet rfl rfl (by intros; intro h; cases h)

theorem acctw_crash {α : Type} (s : St) (c m : String) : AcctW s (crash c m s : R α) :=
  AcctW.quiet rfl rfl (by intros; intro h; cases h)

theorem acctw_error {α : Type} (s : St) (e : Err) (he : ∀ cid cp m a v b, e ≠ .exceeded cid cp m a v b) :
    AcctW s (.error (e, s) : R α) :=
  AcctW.quiet rfl rfl (by intro cid cp m a v b t h; simp only [Except.error.injEq, Prod.mk.injEq] at h; exact he _ _ _ _ _ _ h.1)

theorem AcctW.bind {α β : Type} {s : St} {r : R α} {f : α → St → R β} (h : AcctW s r)
    (hf : ∀ a s', r = .ok (a, s') → AcctW s' (f a s')) : AcctW s (r.bind f) := by
  cases r with
  | error e =>
    obtain ⟨e, s'⟩ := e
    obtain ⟨new, segs, off, h1, h2, h3, _, h5⟩ := h
    refine ⟨new, segs, off, h1, h2, h3, by simp [R.bind, isOkR], ?_⟩
    intro cid cp m a v b t hh
    simp only [R.bind_error, Except.error.injEq, Prod.mk.injEq] at hh
    exact h5 cid cp m a v b t (by rw [hh.1, hh.2])
  | ok as =>
    obtain ⟨a, s'⟩ := as
    obtain ⟨new, segs, off, h1, h2, h3, h4, _⟩ := h
    have hoff : off = [] := h4 rfl
    subst hoff
    simp only [stOf, List.append_nil] at h1 h3
    obtain ⟨new2, segs2, off2, g1, g2, g3, g4, g5⟩ := hf a s' rfl
    refine ⟨new ++ new2, segs ++ segs2, off2, ?_, h2.append g2, ?_, ?_, ?_⟩
    · simp [R.bind, g1, h1, List.append_assoc]
    · simp [R.bind, h3, g3, List.append_assoc]
    · simpa [R.bind] using g4
    · simpa [R.bind] using g5

theorem AcctW.of_scs {α : Type} {s : St} (scs : List SC) {r : R α} (h : AcctW { s with scs := scs } r) : AcctW s r := h

/-- an event that accounts for no bytes, then the rest -/
theorem AcctW.of_emit {α : Type} {s : St} (e : Event) (he : SegOf e []) {r : R α} (h : AcctW (emit e s) r) : AcctW s r := by
  obtain ⟨new, segs, off, h1, h2, h3, h4, h5⟩ := h
  refine ⟨(s.pos, e) :: new, [] :: segs, off, ?_, Segs.cons he h2, ?_, h4, h5⟩
  · simp [h1, emit]
  · simpa [emit] using h3

theorem segOf_structural (m : MEvent) (h : m.val = none) : SegOf (.marshal m) [] := by
  simp [SegOf, MEvent.bytes, h]

theorem AcctW.skipped {α : Type} {s t : St} {e : Err} (off : List Byte) (ho : t.out = s.out) (hi : s.inp = off ++ t.inp)
    (hex : ∀ cid cp m a v b, e = .exceeded cid cp m a v b → off.length = m - a) : AcctW s (.error (e, t) : R α) := by
  refine ⟨[], [], off, ?_, Segs.nil, hi, ?_, ?_⟩
  · rw [stOf, ho, List.append_nil]
  · intro h; cases h
  · intro cid cp m a v b t' h
    cases h
    exact hex _ _ _ _ _ _ rfl

theorem bpGo_acctw (path : Path) (size : Nat) (todo done : List SC) (s : St) : AcctW s (bpGo path size done todo s) := by
  rcases bpGo_cases path size todo done with h | ⟨_, c, _, _, _, h⟩ <;> rw [h]
  · exact AcctW.quiet rfl rfl nofun
  · -- overrun of `c`: the rest of the region is consumed, then the error is on its way
    rw [consume_eq]
    split
    · exact AcctW.skipped s.inp rfl (List.append_nil _).symm nofun
    · rename_i hn
      refine AcctW.skipped (s.inp.take (c.max.getD 0 - c.already)) rfl (List.take_append_drop ..).symm ?_
      intro cid cp m a v b h
      cases h
      dsimp only at hn
      rw [List.length_take]; omega

theorem bytesParsed_acctw (path : Path) (size : Nat) (s : St) : AcctW s (bytesParsed path size s) :=
  bpGo_acctw path size s.scs [] s

theorem readPrim_acctw (p : Prim) (path : Path) (s : St) : AcctW s (readPrim false p path s) := by
  unfold readPrim
  refine (bytesParsed_acctw path p.size s).bind fun _ s1 _ => ?_
  cases ht : take p.size s1 with
  | error e =>
    obtain ⟨e, s2⟩ := e
    unfold take at ht
    split at ht <;> cases ht
    exact AcctW.skipped s1.inp rfl (List.append_nil _).symm nofun
  | ok as =>
    obtain ⟨bs, s2⟩ := as
    obtain ⟨hl, hi, hs2⟩ := take_ok_inv ht
    have ho : s2.out = s1.out := by rw [hs2]
    simp only [R.bind_ok, Bool.false_eq_true, if_false]
    have hbytes : intToBytes p.size (p.ofBytes bs) = bs := intToBytes_intOfBytes p.size p.signed bs hl
    have hseg : SegOf (.marshal ⟨path, .named p.name false, some (p.ofBytes bs), p.name, p.size⟩) bs := by
      simp [SegOf, MEvent.bytes, hbytes]
    split
    · refine ⟨[(s2.pos, .marshal ⟨path, .named p.name false, some (p.ofBytes bs), p.name, p.size⟩)], [bs], [], ?_, Segs.single hseg, ?_, fun _ => rfl, ?_⟩
      · simp [stOf, emitM, emit, ho]
      · simp [stOf, emitM, emit, hi]
      · intro cid cp m a v b t hh; cases hh
    · refine ⟨[(s2.pos, .marshal ⟨path, .named p.name false, some (p.ofBytes bs), p.name, p.size⟩),
          (s2.pos, .warning (.value path p.name (p.ofBytes bs)))], [bs, []], [], ?_,
          Segs.cons hseg (Segs.single (by simp [SegOf])), ?_, fun _ => rfl, ?_⟩
      · simp [stOf, emitW, emitM, emit, ho]
      · simp [stOf, emitW, emitM, emit, hi]
      · intro cid cp m a v b t hh; cases hh

theorem anticipateM_acctw (vpath : Path) (v id : Nat) (s : St) : AcctW s (anticipateM false vpath v id s) := by
  unfold anticipateM
  split
  · exact acctw_ok _ _
  · rename_i e he
    simp only [Bool.false_eq_true, if_false]
    obtain ⟨_, _, _, _, _, rfl⟩ := anticipate_some he
    exact AcctW.of_emit _ (by simp [SegOf]) (acctw_ok _ _)

theorem openRegion_acctw (id : Nat) (cpath : Path) (n : Nat) (s : St) : AcctW s (openRegion false id cpath n s) := by
  unfold openRegion
  exact (anticipateM_acctw cpath n id s).bind fun _ t _ => AcctW.quiet rfl rfl (by intros; intro h; cases h)

theorem setListed_acctw (id : Nat) (cpath : Path) (n : Nat) (s : St) : AcctW s (setListed false id cpath n s) := by
  unfold setListed
  exact AcctW.of_scs _ (anticipateM_acctw cpath n id _)

theorem assertDoneSC_acctw (c : SC) (s : St) : AcctW s (assertDoneSC false c s) := by
  unfold assertDoneSC
  cases hm : c.max with
  | none => exact acctw_crash _ _ _
  | some m =>
    simp only []
    by_cases heq : c.already = m
    · simp only [heq, if_true]; exact acctw_ok _ _
    · simp only [heq, if_false, Bool.false_eq_true]
      by_cases hlt : c.already < m
      · simp only [hlt, if_true]
        -- the warning, then the padding up to the declared end
        have hbp := bytesParsed_acctw c.path (m - c.already) (emitW (.subceeded c.id c.path m c.already) s)
        cases hb : bytesParsed c.path (m - c.already) (emitW (.subceeded c.id c.path m c.already) s) with
        | error et =>
          rw [hb] at hbp
          exact AcctW.of_emit (.warning (.subceeded c.id c.path m c.already)) (by simp [SegOf])
            (hbp.bind (f := fun _ s => consume (m - c.already) s) fun _ _ h => by cases h)
        | ok ut =>
          obtain ⟨_, s1⟩ := ut
          obtain ⟨q1, -, q3⟩ := bpGo_ok_quiet c.path (m - c.already) _ [] _ s1 hb
          have q1' : s1.inp = s.inp := q1
          rw [R.bind_ok, consume_eq]
          split
          · exact AcctW.of_emit _ (by simp [SegOf]) (AcctW.skipped s1.inp q3 (by rw [List.append_nil]; exact q1.symm) nofun)
          · refine ⟨[(s.pos, .warning (.subceeded c.id c.path m c.already))], [s1.inp.take (m - c.already)], [], ?_,
              Segs.single ?_, ?_, fun _ => rfl, ?_⟩
            · simp [stOf, q3, emitW, emit]
            · simp [SegOf]; omega
            · simp [stOf, ← q1']
            · intro _ _ _ _ _ _ _ h; cases h
      · simp only [hlt, if_false]
        exact AcctW.of_emit _ (by simp [SegOf]) (acctw_ok _ _)

/-- either `except`: the bytes skipped on account of the overrun are the segment of its warning -/
theorem AcctW.caught {s : St} {r q : R Val} {k : Val → St → R Val} (hr : AcctW s r)
    (hk : ∀ v t, r = .ok (v, t) → AcctW t (k v t)) (hq : Caught false r k q) : AcctW s q := by
  cases hq with
  | ok h => subst h; exact hr.bind (f := k) hk
  | pass h => subst h; exact hr
  | @warn cid cp m a v b t _ _ h =>
    subst h
    obtain ⟨new, segs, off, h1, h2, h3, _, h5⟩ := hr
    have hlen := h5 cid cp m a v b t rfl
    refine ⟨new ++ [(t.pos, .warning (.exceeded cid cp m a v b))], segs ++ [off], [], ?_,
      h2.append (Segs.single (by simp [SegOf, hlen])), ?_, fun _ => rfl, ?_⟩
    · simp only [stOf] at h1 ⊢; simp [emitW, emit, h1]
    · simp only [stOf] at h3 ⊢; simpa [emitW, emit] using h3
    · intro cid' cp' m' a' v' b' t' hh; cases hh

theorem ownCatch_acctw (id : Nat) {s : St} {r : R Val} (k : Val → St → R Val) (hr : AcctW s r)
    (hk : ∀ v t, r = .ok (v, t) → AcctW t (k v t)) : AcctW s (ownCatch false id r k) :=
  hr.caught hk (ownCatch_caught false id r k)

theorem msgCatch_acctw (id1 id2 : Nat) (name : String) (vals : List (String × Val)) {s : St} {r : R Val}
    (k : Val → St → R Val) (hr : AcctW s r) (hk : ∀ v t, r = .ok (v, t) → AcctW t (k v t)) :
    AcctW s (msgCatch false id1 id2 name vals r k) :=
  hr.caught hk (msgCatch_caught false id1 id2 name vals r k)

theorem acctw_stepInv : StepInv false @AcctW where
  pure a s := acctw_ok s a
  crash cls site s := acctw_crash s cls site
  reject e s he := acctw_error s e (by rcases he with ⟨_, _, _, rfl⟩ | ⟨_, _, rfl⟩ <;> (intros; exact Err.noConfusion))
  bind := AcctW.bind
  emit m hm h := AcctW.of_emit (.marshal m) (segOf_structural m hm) h
  scs l h := AcctW.of_scs l h
  caught hr hk hq := hr.caught hk hq
  readPrim p _ := readPrim_acctw p
  openRegion := openRegion_acctw
  setListed := setListed_acctw
  assertDoneSC := assertDoneSC_acctw

theorem arm_acctw : (arms : Arms) → ∀ (un want : String) (path : Path) (s : St), AcctW s (decodeArm false arms un want path s) :=
  fun arms => acctw_stepInv.arm arms arms.pk_true

theorem runWalker_acctw (tb : MsgTables) (top : Top) (x : List Byte) : AcctW (initSt x) (runWalker false tb top x) :=
  acctw_stepInv.runWalker tb tb.pk_true top (fun t _ => t.pk_true) x
