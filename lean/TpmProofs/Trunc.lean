import TpmProofs.Trace
/-!
# Truncation: what the strict walker does on a prefix of an input (any input, any layout)

`TRB k s r r'`: `r` is the result of some step from state `s`, `r'` the result of the same step from `s` with its
input cut to its first `k` bytes.  If the step consumed at most `k` bytes, nothing differs (except that the
remaining input is cut accordingly); if it consumed more, the run on the prefix ends with `depleted` after
consuming all `k` bytes, having emitted exactly the events the full run emitted up to that byte count.

This is the common core of C05 (truncated inputs) and of the prefix-stability half of C10.
-/

def cutSt (k : Nat) (s : St) : St := { s with inp := s.inp.take k }

@[simp] theorem cutSt_pos (k : Nat) (s : St) : (cutSt k s).pos = s.pos := rfl
@[simp] theorem cutSt_out (k : Nat) (s : St) : (cutSt k s).out = s.out := rfl
@[simp] theorem cutSt_scs (k : Nat) (s : St) : (cutSt k s).scs = s.scs := rfl
@[simp] theorem cutSt_inp (k : Nat) (s : St) : (cutSt k s).inp = s.inp.take k := rfl

def R.mapSt {α : Type} (f : St → St) : R α → R α
  | .ok (a, s) => .ok (a, f s)
  | .error (e, s) => .error (e, f s)

/-- consumed by the step -/
def used {α : Type} (s : St) (r : R α) : Nat := (stOf r).pos - s.pos

def TRB {α : Type} (k : Nat) (s : St) (r r' : R α) : Prop :=
  ∃ new : List (Nat × Event),
    (stOf r).out = s.out ++ new ∧ s.pos ≤ (stOf r).pos ∧
    (∀ ke ∈ new, s.pos ≤ ke.1 ∧ ke.1 ≤ (stOf r).pos) ∧
    (used s r ≤ k → r' = r.mapSt (cutSt (k - used s r))) ∧
    (k < used s r → ∃ t, r' = .error (.depleted, t) ∧ t.inp = [] ∧ t.pos = s.pos + k ∧
      t.out = s.out ++ new.filter (fun ke => ke.1 ≤ s.pos + k))

theorem TRB.silent {α : Type} {k : Nat} {s : St} {r r' : R α} (ho : (stOf r).out = s.out) (hp : s.pos ≤ (stOf r).pos)
    (hle : used s r ≤ k → r' = r.mapSt (cutSt (k - used s r)))
    (hlt : k < used s r → ∃ t, r' = .error (.depleted, t) ∧ t.inp = [] ∧ t.pos = s.pos + k ∧ t.out = s.out) :
    TRB k s r r' := by
  refine ⟨[], by rw [ho, List.append_nil], hp, ?_, hle, fun hu => ?_⟩
  · intro ke hke; cases hke
  · obtain ⟨t, h0, h1, h2, h3⟩ := hlt hu
    exact ⟨t, h0, h1, h2, by rw [h3, List.filter_nil, List.append_nil]⟩

/-- a step that consumes nothing and emits nothing, and does the same whatever the input is -/
theorem TRB.quiet {α : Type} {k : Nat} {s : St} {r r' : R α} (hp : (stOf r).pos = s.pos) (ho : (stOf r).out = s.out)
    (h : r' = r.mapSt (cutSt k)) : TRB k s r r' := by
  have hu : used s r = 0 := by simp [used, hp]
  exact TRB.silent ho (by omega) (fun _ => by rw [hu, h]; rfl) (by omega)

theorem TRB.ok {α : Type} (k : Nat) (s : St) (a : α) : TRB k s (.ok (a, s) : R α) (.ok (a, cutSt k s)) :=
  TRB.quiet rfl rfl rfl

theorem TRB.error {α : Type} (k : Nat) (s : St) (e : Err) : TRB k s (.error (e, s) : R α) (.error (e, cutSt k s)) :=
  TRB.quiet rfl rfl rfl

theorem TRB.crash {α : Type} (k : Nat) (s : St) (c m : String) : TRB k s (crash c m s : R α) (crash c m (cutSt k s)) :=
  TRB.quiet rfl rfl rfl

theorem filter_le_self {new : List (Nat × Event)} {b : Nat} (h : ∀ ke ∈ new, ke.1 ≤ b) :
    new.filter (fun ke => decide (ke.1 ≤ b)) = new := by
  apply List.filter_eq_self.mpr
  intro ke hke
  simpa using h ke hke

theorem filter_le_nil {new : List (Nat × Event)} {b : Nat} (h : ∀ ke ∈ new, b < ke.1) :
    new.filter (fun ke => decide (ke.1 ≤ b)) = [] := by
  apply List.filter_eq_nil_iff.mpr
  intro ke hke
  have := h ke hke
  simp only [decide_eq_true_eq]; omega

theorem window_append {β : Type} {s t : St} {q : R β} {new new2 : List (Nat × Event)} (ho : t.out = s.out ++ new)
    (hp : s.pos ≤ t.pos) (hst : ∀ ke ∈ new, s.pos ≤ ke.1 ∧ ke.1 ≤ t.pos) (go : (stOf q).out = t.out ++ new2)
    (gp : t.pos ≤ (stOf q).pos) (gst : ∀ ke ∈ new2, t.pos ≤ ke.1 ∧ ke.1 ≤ (stOf q).pos) :
    (stOf q).out = s.out ++ (new ++ new2) ∧ s.pos ≤ (stOf q).pos ∧
      ∀ ke ∈ new ++ new2, s.pos ≤ ke.1 ∧ ke.1 ≤ (stOf q).pos := by
  refine ⟨by rw [go, ho, List.append_assoc], by omega, fun ke hke => ?_⟩
  rcases List.mem_append.mp hke with hke | hke
  · have := hst ke hke; omega
  · have := gst ke hke; omega

theorem out_filter_of {α : Type} {k : Nat} {s : St} {new : List (Nat × Event)} {r r' : R α}
    (ho : (stOf r).out = s.out ++ new) (hst : ∀ ke ∈ new, s.pos ≤ ke.1 ∧ ke.1 ≤ (stOf r).pos)
    (h : (used s r ≤ k ∧ r' = r.mapSt (cutSt (k - used s r))) ∨
      (stOf r').out = s.out ++ new.filter (fun ke => ke.1 ≤ s.pos + k)) :
    (stOf r').out = s.out ++ new.filter (fun ke => ke.1 ≤ s.pos + k) := by
  rcases h with ⟨hu, rfl⟩ | h
  · rw [filter_le_self fun ke hke => by have := hst ke hke; simp only [used] at hu; omega, ← ho]
    cases r <;> rfl
  · exact h

theorem TRB.out_filter {α : Type} {k : Nat} {s : St} {new : List (Nat × Event)} {r r' : R α}
    (ho : (stOf r).out = s.out ++ new) (hst : ∀ ke ∈ new, s.pos ≤ ke.1 ∧ ke.1 ≤ (stOf r).pos)
    (hle : used s r ≤ k → r' = r.mapSt (cutSt (k - used s r)))
    (hlt : k < used s r → ∃ t, r' = .error (.depleted, t) ∧ t.inp = [] ∧ t.pos = s.pos + k ∧
      t.out = s.out ++ new.filter (fun ke => ke.1 ≤ s.pos + k)) :
    (stOf r').out = s.out ++ new.filter (fun ke => ke.1 ≤ s.pos + k) := by
  refine out_filter_of ho hst ?_
  by_cases hu : used s r ≤ k
  · exact Or.inl ⟨hu, hle hu⟩
  · obtain ⟨t, h0, -, -, h3⟩ := hlt (by omega)
    exact Or.inr (by rw [h0]; exact h3)

/-- the continuation of the prefix run may be any `g'` that is related to `g` -/
theorem TRB.bind₂ {α β : Type} {k : Nat} {s : St} {r r' : R α} {g g' : α → St → R β} (h : TRB k s r r')
    (hg : ∀ a t, r = .ok (a, t) → ∀ k', TRB k' t (g a t) (g' a (cutSt k' t))) :
    TRB k s (r.bind g) (r'.bind g') := by
  obtain ⟨new, ho, hp, hst, hle, hlt⟩ := h
  cases r with
  | error e =>
    obtain ⟨e, t⟩ := e
    refine ⟨new, ho, hp, hst, fun hu => by rw [hle hu]; rfl, fun hu => ?_⟩
    obtain ⟨t', h0, h⟩ := hlt hu
    exact ⟨t', by rw [h0]; rfl, h⟩
  | ok at' =>
    obtain ⟨a, t⟩ := at'
    simp only [stOf] at ho hp hst
    simp only [used, stOf] at hle hlt
    by_cases hc : t.pos - s.pos ≤ k
    · -- the first part ends within the budget: the rest runs with what is left of it
      rw [hle hc]
      obtain ⟨new2, go, gp, gst, gle, glt⟩ := hg a t rfl (k - (t.pos - s.pos))
      show TRB k s (g a t) (g' a (cutSt (k - (t.pos - s.pos)) t))
      generalize g' a (cutSt (k - (t.pos - s.pos)) t) = q' at gle glt ⊢
      generalize g a t = q at go gp gst gle glt ⊢
      obtain ⟨wo, wp, wst⟩ := window_append ho hp hst go gp gst
      have hu : used s q = (t.pos - s.pos) + used t q := by clear gle glt; simp only [used]; omega
      refine ⟨new ++ new2, wo, wp, wst, fun hu1 => ?_, fun hu1 => ?_⟩
      · rw [gle (by clear gle glt; omega), show k - (t.pos - s.pos) - used t q = k - used s q by clear gle glt; omega]
      · obtain ⟨t2, h0, h1, h2, h3⟩ := glt (by clear gle glt; omega)
        clear gle glt
        refine ⟨t2, h0, h1, by omega, ?_⟩
        have hf := filter_le_self (new := new) (b := s.pos + k) (fun ke hke => by have := hst ke hke; omega)
        rw [h3, ho, List.filter_append, hf, show t.pos + (k - (t.pos - s.pos)) = s.pos + k by omega, List.append_assoc]
    · -- the cut falls inside the first part: the prefix run has stopped there
      obtain ⟨t', h0, h1, h2, h3⟩ := hlt (Nat.lt_of_not_le hc)
      rw [h0]
      obtain ⟨new2, go, gp, gst, -, -⟩ := hg a t rfl 0
      show TRB k s (g a t) (.error (.depleted, t'))
      generalize g a t = q at go gp gst ⊢
      obtain ⟨wo, wp, wst⟩ := window_append ho hp hst go gp gst
      refine ⟨new ++ new2, wo, wp, wst, fun hu => ?_, fun _ => ⟨t', rfl, h1, h2, ?_⟩⟩
      · simp only [used] at hu; omega
      · have hf := filter_le_nil (new := new2) (b := s.pos + k) (fun ke hke => by have := gst ke hke; omega)
        rw [h3, List.filter_append, hf, List.append_nil]

theorem TRB.bind {α β : Type} {k : Nat} {s : St} {r r' : R α} {g : α → St → R β} (h : TRB k s r r')
    (hg : ∀ a t, r = .ok (a, t) → ∀ k', TRB k' t (g a t) (g a (cutSt k' t))) :
    TRB k s (r.bind g) (r'.bind g) :=
  h.bind₂ hg

/-! ### changing the start state in ways the relation does not see -/

theorem TRB.of_scs {α : Type} {k : Nat} {s : St} (scs : List SC) {r r' : R α} (h : TRB k { s with scs := scs } r r') :
    TRB k s r r' := h

theorem TRB.of_emit {α : Type} {k : Nat} {s : St} (e : Event) {r r' : R α} (h : TRB k (emit e s) r r') :
    TRB k s r r' := by
  obtain ⟨new, ho, hp, hst, hle, hlt⟩ := h
  have hpos : (emit e s).pos = s.pos := rfl
  have hout : (emit e s).out = s.out ++ [(s.pos, e)] := rfl
  have hused : used (emit e s) r = used s r := rfl
  rw [hused] at hle hlt
  rw [hpos] at hp hst hlt
  rw [hout] at ho hlt
  refine ⟨(s.pos, e) :: new, by rw [ho]; simp, hp, ?_, hle, ?_⟩
  · intro ke hke
    simp only [List.mem_cons] at hke
    rcases hke with rfl | hke
    · exact ⟨Nat.le_refl _, hp⟩
    · exact hst ke hke
  · intro hu
    obtain ⟨t, h0, h1, h2, h3⟩ := hlt hu
    refine ⟨t, h0, h1, h2, ?_⟩
    rw [h3]
    simp

theorem cutSt_emit (k : Nat) (e : Event) (s : St) : emit e (cutSt k s) = cutSt k (emit e s) := rfl
theorem cutSt_emitM (k : Nat) (e : MEvent) (s : St) : emitM e (cutSt k s) = cutSt k (emitM e s) := rfl

/-- finishing with one more event -/
theorem TRB.ok_emit {α : Type} (k : Nat) (s : St) (a : α) (e : Event) :
    TRB k s (.ok (a, emit e s) : R α) (.ok (a, emit e (cutSt k s))) :=
  TRB.of_emit e (TRB.ok k (emit e s) a)

/-! ### the only step that looks at the input -/

theorem take_tr (n : Nat) (s : St) (k : Nat) : TRB k s (take n s) (take n (cutSt k s)) := by
  unfold take
  simp only [cutSt_inp, cutSt_pos, List.length_take]
  by_cases hlen : s.inp.length < n
  · -- the full input is too short as well
    have h1 : min k s.inp.length < n := by omega
    simp only [hlen, h1, if_true]
    refine TRB.silent rfl (Nat.le_add_right _ _) (fun hu => ?_) fun hu => ?_ <;> simp only [used, stOf] at hu
    · simp only [R.mapSt, cutSt, Nat.min_eq_right (show s.inp.length ≤ k by omega), List.take_nil]
    · exact ⟨_, rfl, rfl, by simp only []; omega, rfl⟩
  · simp only [hlen, if_false]
    refine TRB.silent rfl (Nat.le_add_right _ _) (fun hu => ?_) fun hu => ?_ <;> simp only [used, stOf] at hu
    · have h1 : ¬ min k s.inp.length < n := by omega
      simp only [h1, if_false, R.mapSt, cutSt, used, stOf, List.take_take, List.drop_take,
        Nat.min_eq_left (show n ≤ k by omega), show s.pos + n - s.pos = n by omega]
    · have h1 : min k s.inp.length < n := by omega
      simp only [h1, if_true]
      exact ⟨_, rfl, rfl, by simp only []; omega, rfl⟩

theorem consume_tr (n : Nat) (s : St) (k : Nat) : TRB k s (consume n s) (consume n (cutSt k s)) := by
  unfold consume
  exact (take_tr n s k).bind fun _ t _ k' => TRB.ok k' t ()

/-! ### constraint bookkeeping (never looks at the input) -/

theorem bpGo_tr (path : Path) (size : Nat) (todo done : List SC) (s : St) (k : Nat) :
    TRB k s (bpGo path size done todo s) (bpGo path size done todo (cutSt k s)) := by
  rcases bpGo_cases path size todo done with h | ⟨_, _, _, _, _, h⟩ <;> rw [h, h]
  · exact TRB.quiet rfl rfl rfl
  · exact TRB.of_scs _ ((consume_tr _ _ k).bind fun _ t _ k' => TRB.error k' t _)

theorem bytesParsed_tr (path : Path) (size : Nat) (s : St) (k : Nat) :
    TRB k s (bytesParsed path size s) (bytesParsed path size (cutSt k s)) :=
  bpGo_tr path size s.scs [] s k

theorem readPrim_tr (p : Prim) (path : Path) (s : St) (k : Nat) :
    TRB k s (readPrim true p path s) (readPrim true p path (cutSt k s)) := by
  unfold readPrim
  refine (bytesParsed_tr path p.size s k).bind fun _ t _ k' => ?_
  refine (take_tr p.size t k').bind fun bs t2 _ k2 => ?_
  simp only []
  split
  · exact TRB.ok_emit k2 t2 _ _
  · simp only [if_true]
    exact TRB.error k2 t2 _

theorem anticipateM_tr (vpath : Path) (v id : Nat) (s : St) (k : Nat) :
    TRB k s (anticipateM true vpath v id s) (anticipateM true vpath v id (cutSt k s)) := by
  unfold anticipateM
  simp only [cutSt_scs]
  split
  · exact TRB.ok k s _
  · simp only [if_true]; exact TRB.error k s _

theorem openRegion_tr (id : Nat) (cpath : Path) (n : Nat) (s : St) (k : Nat) :
    TRB k s (openRegion true id cpath n s) (openRegion true id cpath n (cutSt k s)) := by
  unfold openRegion
  exact (anticipateM_tr cpath n id s k).bind fun _ t _ k' => TRB.quiet rfl rfl rfl

theorem setListed_tr (id : Nat) (cpath : Path) (n : Nat) (s : St) (k : Nat) :
    TRB k s (setListed true id cpath n s) (setListed true id cpath n (cutSt k s)) := by
  unfold setListed
  exact TRB.of_scs _ (anticipateM_tr cpath n id _ k)

theorem assertDoneSC_tr (c : SC) (s : St) (k : Nat) :
    TRB k s (assertDoneSC true c s) (assertDoneSC true c (cutSt k s)) := by
  unfold assertDoneSC
  split
  · exact TRB.crash k s _ _
  · split
    · exact TRB.ok k s _
    · simp only [if_true]; exact TRB.error k s _

theorem assertDone_tr (id : Nat) (s : St) (k : Nat) :
    TRB k s (assertDone true id s) (assertDone true id (cutSt k s)) := by
  unfold assertDone
  simp only [cutSt_scs]
  split
  · exact TRB.crash k s _ _
  · exact TRB.of_scs _ (assertDoneSC_tr _ _ k)

/-! ### lists and fields -/

theorem repeatDec_tr (f : Path → St → R Val) (hf : ∀ p s k, TRB k s (f p s) (f p (cutSt k s))) (path : Path) :
    ∀ (n i : Nat) (s : St) (k : Nat), TRB k s (repeatDec f path n i s) (repeatDec f path n i (cutSt k s))
  | 0, _, s, k => TRB.ok k s _
  | n + 1, i, s, k => (hf _ s k).bind fun _ t _ k' =>
      (repeatDec_tr f hf path n (i + 1) t k').bind fun _ t2 _ k2 => TRB.ok k2 t2 _

theorem TRB.listOf (f : Path → St → R Val) (hf : ∀ p s k, TRB k s (f p s) (f p (cutSt k s))) (path : Path) (tn : String) (n : Nat)
    (s : St) (k : Nat) :
    TRB k s ((repeatDec f path n 0 (emitM ⟨path, .listOf tn, none, "", 0⟩ s)).bind fun vs s => .ok (Val.list vs, s))
      ((repeatDec f path n 0 (emitM ⟨path, .listOf tn, none, "", 0⟩ (cutSt k s))).bind fun vs s => .ok (Val.list vs, s)) :=
  TRB.of_emit _ ((repeatDec_tr f hf path n 0 _ k).bind fun _ t _ k' => TRB.ok k' t _)

theorem readPrimList_tr (p : Prim) (path : Path) (n : Nat) (s : St) (k : Nat) :
    TRB k s (readPrimList true p path n s) (readPrimList true p path n (cutSt k s)) :=
  TRB.listOf _ (readPrim_tr p) path p.name n s k

theorem readListArm_tr (elem : Prim) (n : Option Nat) (path : Path) (s : St) (k : Nat) :
    TRB k s (readListArm true elem n path s) (readListArm true elem n path (cutSt k s)) := by
  unfold readListArm
  cases n with
  | none => exact TRB.crash k s _ _
  | some c => exact readPrimList_tr elem path c s k

theorem fieldWith_tr (d : Path → Option Int → St → R Val) (hd : ∀ p sel s k, TRB k s (d p sel s) (d p sel (cutSt k s)))
    (tname : String) : ∀ (kind : FKind) (fpath : Path) (vals : List (String × Val)) (s : St) (k : Nat),
    TRB k s (decodeFieldWith d tname kind fpath vals s) (decodeFieldWith d tname kind fpath vals (cutSt k s))
  | .plain, _, _, _, _ => hd ..
  | .selected sel, _, _, s, k => by
    simp only [decodeFieldWith]
    split
    · exact TRB.crash k s _ _
    · exact hd ..
  | .counted, fpath, _, s, k => by
    simp only [decodeFieldWith]
    split
    · exact TRB.crash k s _ _
    · exact TRB.listOf _ (fun p s k => hd p none s k) fpath tname _ s k

mutual
theorem decode_tr : (t : Ty) → ∀ (path : Path) (sel : Option Int) (s : St) (k : Nat),
    TRB k s (decode true t path sel s) (decode true t path sel (cutSt k s))
  | .prim p, path, sel, s, k => by simp only [decode]; exact readPrim_tr p path s k
  | .struct name isP fs, path, sel, s, k => by
    simp only [decode]
    exact TRB.of_emit _ ((fields_tr fs path [] _ k).bind fun _ t _ k' => TRB.ok k' t _)
  | .tpm2bBytes name szName szP bufName elem, path, sel, s, k => by
    simp only [decode]
    refine TRB.of_emit _ ((readPrim_tr szP _ _ k).bind fun nv s1 _ k1 => ?_)
    simp only [cutSt_pos]
    split
    · exact TRB.crash k1 s1 _ _
    · exact (openRegion_tr _ _ _ s1 k1).bind fun _ s2 _ k2 => (readPrimList_tr elem _ _ s2 k2).bind fun _ s3 _ k3 =>
        (assertDone_tr _ s3 k3).bind fun _ s4 _ k4 => TRB.ok k4 s4 _
  | .tpm2b name szName szP bufName body, path, sel, s, k => by
    simp only [decode, ownCatch_true]
    refine TRB.of_emit _ ((readPrim_tr szP _ _ k).bind fun nv s1 _ k1 => ?_)
    simp only [cutSt_pos]
    split
    · exact TRB.crash k1 s1 _ _
    · refine (openRegion_tr _ _ _ s1 k1).bind fun _ s2 _ k2 => ?_
      split
      · exact TRB.of_emit _ ((assertDone_tr _ _ k2).bind fun _ s4 _ k4 => TRB.ok k4 s4 _)
      · exact (decode_tr body _ none s2 k2).bind fun _ s3 _ k3 =>
          (assertDone_tr _ s3 k3).bind fun _ s4 _ k4 => TRB.ok k4 s4 _
  | .union name arms, path, sel, s, k => by
    simp only [decode]
    refine TRB.of_emit (.marshal ⟨path, .named name false, none, "", 0⟩) ?_
    split
    · split
      · exact TRB.error k _ _
      · exact TRB.error k _ _
    · exact arm_tr arms name _ path _ k
  | .bad r, path, sel, s, k => by simp only [decode]; exact TRB.crash k s _ _

theorem arm_tr : (arms : Arms) → ∀ (un want : String) (path : Path) (s : St) (k : Nat),
    TRB k s (decodeArm true arms un want path s) (decodeArm true arms un want path (cutSt k s))
  | .nil, un, want, path, s, k => by simp only [decodeArm]; exact TRB.crash k s _ _
  | .consNone an key rest, un, want, path, s, k => by
    simp only [decodeArm]
    split
    · exact TRB.ok k s _
    · exact arm_tr rest un want path s k
  | .cons an key t rest, un, want, path, s, k => by
    simp only [decodeArm]
    split
    · exact (decode_tr t _ none s k).bind fun v t' _ k' => TRB.ok k' t' _
    · exact arm_tr rest un want path s k
  | .consBytes an key elem n rest, un, want, path, s, k => by
    simp only [decodeArm]
    split
    · exact (readListArm_tr elem n _ s k).bind fun v t' _ k' => TRB.ok k' t' _
    · exact arm_tr rest un want path s k

theorem fields_tr : (fs : Fields) → ∀ (path : Path) (vals : List (String × Val)) (s : St) (k : Nat),
    TRB k s (decodeFields true fs path vals s) (decodeFields true fs path vals (cutSt k s))
  | .nil, path, vals, s, k => by simp only [decodeFields]; exact TRB.ok k s _
  | .cons fname kind t rest, path, vals, s, k => by
    simp only [decodeFields]
    exact (fieldWith_tr _ (fun p sel s k => decode_tr t p sel s k) t.name kind _ vals s k).bind fun v t' _ k' =>
      fields_tr rest path _ t' k'
end

theorem decodeArea_tr (tb : MsgTables) (enc : Bool) (t : Ty) (path : Path) (s : St) (k : Nat) :
    TRB k s (decodeArea true tb enc t path s) (decodeArea true tb enc t path (cutSt k s)) := by
  unfold decodeArea
  split
  · split
    · exact decode_tr t path none s k
    · exact TRB.of_emit _ ((fields_tr _ path [] _ k).bind fun _ t' _ k' => TRB.ok k' t' _)
  · exact decode_tr t path none s k

theorem sizedLoop_tr (t : Ty) (path : Path) (cid : Nat) : ∀ (fuel i : Nat) (acc : List Val) (s : St) (k : Nat),
    TRB k s (sizedLoop true t path cid fuel i acc s) (sizedLoop true t path cid fuel i acc (cutSt k s))
  | 0, _, _, s, k => TRB.crash k s _ _
  | fuel + 1, i, acc, s, k => by
    unfold sizedLoop
    simp only [cutSt_scs, ownCatch_true]
    split
    · exact TRB.crash k s _ _
    · split
      · exact TRB.crash k s _ _
      · split
        · exact (decode_tr t _ none s k).bind fun _ t' _ k' => sizedLoop_tr t path cid fuel _ _ t' k'
        · exact (TRB.of_scs _ (assertDoneSC_tr _ _ k)).bind fun _ t' _ k' => TRB.ok k' t' _

theorem decodeSized_tr (t : Ty) (path : Path) (cid : Nat) (s : St) (k : Nat) :
    TRB k s (decodeSized true t path cid s) (decodeSized true t path cid (cutSt k s)) :=
  TRB.of_emit _ (sizedLoop_tr t path cid _ 0 [] _ k)

theorem tr_runRel (c : Cfg) (hc : c.abort = true) :
    RunRel c c fun f f' => ∀ s k, TRB k s (f s) (f' (cutSt k s)) where
  eval _ := rfl
  pure a s k := TRB.ok k s a
  bind hf hg s k := (hf s k).bind₂ fun a t _ k' => hg a t k'
  attempt vals _ _ _ _ hf hk s k := by
    simp only [hc, msgCatch_true]; exact (hf s k).bind₂ fun a t _ k' => hk a t k'
  check q s k := by
    simp only [Check.run, cutSt_scs]
    split
    · exact TRB.ok ..
    · exact TRB.crash ..
  leaf l s k := by
    cases l <;> simp only [Leaf.run, hc]
    case start => exact TRB.of_scs _ (TRB.of_emit _ (TRB.ok ..))
    case field => exact readPrim_tr ..
    case setOwn => exact setListed_tr ..
    case openInner => exact openRegion_tr ..
    case area =>
      split
      · exact TRB.error ..
      · exact decodeArea_tr ..
    case sessions rsp => cases rsp <;> exact decodeSized_tr ..
    case done => exact assertDone_tr ..

theorem decodeCommand_tr (tb : MsgTables) (path : Path) (s0 : St) (k : Nat) :
    TRB k s0 (decodeCommand true tb path s0) (decodeCommand true tb path (cutSt k s0)) := by
  rw [decodeCommand_eq_run, decodeCommand_eq_run]; exact Prog.run_rel (tr_runRel _ rfl) _ s0 k

theorem decodeResponse_tr (tb : MsgTables) (cc : Option Int) (encFlag : Bool) (path : Path) (s0 : St) (k : Nat) :
    TRB k s0 (decodeResponse true tb cc encFlag path s0) (decodeResponse true tb cc encFlag path (cutSt k s0)) := by
  rw [decodeResponse_eq_run, decodeResponse_eq_run]; exact Prog.run_rel (tr_runRel _ rfl) _ s0 k
