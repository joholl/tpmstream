import TpmProofs.EndsOk
import TpmProofs.Props.C14S
/-!
# C14 — every byte buffer of every decoder stream is ONE row (either mode, every input)

`c14_buffers_are_blocks` (Props/C14R.lean) needs `endsOk`: no list's run is ended by a byte-buffer parent.  Here that is a
theorem about the decoder (`TpmProofs/EndsOk.lean`,
`runWalker_endsOk`) for every layout table meeting a static condition that the kernel decides on the regenerated tables
(`c14_ends_tables`): a `list[BYTE]` field is directly preceded by a plain primitive field of its structure, is not the first field
of a list element, and no union with a byte-array member is a list element.
-/

namespace C14

theorem endsOk_prefix : ∀ (A B : List Event), endsOk (A ++ B) = true → endsOk A = true
  | [], _, _ => rfl
  | .warning _ :: A, B, h => by
    simp only [List.cons_append, endsOk] at h ⊢
    exact endsOk_prefix A B h
  | .marshal p :: A, B, h => by
    simp only [List.cons_append, endsOk, Bool.and_eq_true] at h ⊢
    refine ⟨?_, endsOk_prefix A B h.2⟩
    have h1 := h.1
    by_cases hl : isListParent p = true
    · simp only [hl, if_true] at h1 ⊢
      rw [firstNonChild_append] at h1
      cases hf : firstNonChild p.path A with
      | some c => simpa [hf] using h1
      | none => rfl
    · simp [hl]

/-- the (kernel-checked) static condition on the regenerated tables -/
theorem c14_ends_tables : Generated.msgTables.eoOk = true ∧ Generated.allTypes.all Ty.eoOk = true := by
  constructor <;> decide +kernel

/-- **for every layout table meeting the side conditions, every top-level decode, either mode and EVERY input: in the event stream a
consumer sees, no list's run is ended by a byte-buffer parent** -/
theorem decoder_endsOk (env : PrintEnv) (abort : Bool) (tb : MsgTables)
    (h : tb.shapeOk (fun p => (env.prim p.name).isSome) = true) (he : tb.eoOk = true) (top : Top)
    (htop : ∀ t, top = .ty t → t.shapeOk (fun p => (env.prim p.name).isSome) = true ∧ t.eoOk = true) (x : List Byte) :
    endsOk (streamOf abort (marshalRun abort tb top x)) = true := by
  have hpk : PrimLink abort (fun p => (env.prim p.name).isSome) (fun m => (env.prim m.vclass).isSome = true) :=
    fun p hp σ x _ => hp
  obtain ⟨new, ho, heo⟩ := runWalker_endsOk abort hpk tb h he top htop x
  simp only [initSt, List.nil_append] at ho
  obtain ⟨suffix, hsplit⟩ := run_evs_prefix abort tb top x
  rw [ho] at hsplit
  have hk : endsOk ((marshalRun abort tb top x).events.map (·.2)) = true :=
    endsOk_prefix _ suffix (by rw [hsplit]; exact heo)
  unfold streamOf
  exact endsOk_append_gw _ _ hk (streamOf_tail_gw abort _)

theorem decoder_endsOk_repo (abort : Bool) (top : Top) (htop : ∀ t, top = .ty t → t ∈ Generated.allTypes) (x : List Byte) :
    endsOk (streamOf abort (marshalRun abort Generated.msgTables top x)) = true :=
  decoder_endsOk tableEnv abort Generated.msgTables c14_shape_tables.1 c14_ends_tables.1 top
    (fun t ht => ⟨List.all_eq_true.mp c14_shape_tables.2 t (htop t ht), List.all_eq_true.mp c14_ends_tables.2 t (htop t ht)⟩) x

/-- **C14 (every byte buffer is one row), for the decoder's streams**: for every layout of `/repo` (and the command, response and
stream decoders), either mode and EVERY byte string, in the blocks the pretty printer forms from the decoded stream the events shown
on their own are never byte-buffer parents: every byte buffer heads a buffer block, i.e. is one row holding all its bytes -/
theorem c14_decoder_buffers (abort : Bool) (top : Top) (htop : ∀ t, top = .ty t → t ∈ Generated.allTypes) (x : List Byte) :
    ∀ b ∈ blocksOf (streamOf abort (marshalRun abort Generated.msgTables top x)), ∀ m, b = .plain m → isBufParent m = false :=
  c14_buffers_are_blocks _ (decoder_endsOk_repo abort top htop x)

/-- everything the driver's `K` line reports (`shownB`) is a theorem for decoder streams -/
theorem c14_decoder_shown (abort : Bool) (top : Top) (htop : ∀ t, top = .ty t → t ∈ Generated.allTypes) (x : List Byte) :
    shownB tableEnv (streamOf abort (marshalRun abort Generated.msgTables top x)) = true := by
  unfold shownB
  rw [decoder_shaped tableEnv abort Generated.msgTables c14_shape_tables.1 top
    (fun t ht => List.all_eq_true.mp c14_shape_tables.2 t (htop t ht)) x]
  exact decoder_endsOk_repo abort top htop x

private def pr (n : String) (k : Nat) : Prim := { (default : Prim) with name := n, size := k }

/-- the static condition is not vacuous: a layout it rules out — a list of bytes directly after a list of integers — and one it
accepts (`TPMS_PCR_SELECTION`-like: hash, sizeofSelect, pcrSelect) -/
example :
    (Ty.struct "X" false (.cons "n" .plain (.prim (pr "UINT8" 1)) (.cons "a" .counted (.prim (pr "UINT8" 1))
      (.cons "b" .counted (.prim (pr "BYTE" 1)) .nil)))).eoOk = false ∧
    (Ty.struct "Y" false (.cons "hash" .plain (.prim (pr "UINT16" 2)) (.cons "sizeofSelect" .plain (.prim (pr "UINT8" 1))
      (.cons "pcrSelect" .counted (.prim (pr "BYTE" 1)) .nil)))).eoOk = true := by
  decide +kernel

end C14
