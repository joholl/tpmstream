import TpmProofs.DecodeOk
import TpmModel.Pump
import TpmModel.Generated.Tables
import TpmProofs.Props.MsgWF
/-!
# C01 — well-formed encodings decode to exactly the field-by-field event sequence

`spec` (TpmModel/Spec.lean) is the reading of the layout tables: a value tree conforms to a layout iff
`spec` is `some`, and then it has exactly one encoding and one event list.  The theorems say that the
strict-mode walker, for *every* layout expressible in the table datatype (not just today's 717), every
conforming value, every continuation and every stack of enclosing regions with room, produces exactly
those events and that value and consumes exactly that encoding.
-/
namespace C01

/-- walker level, any context (continuation `rest`, position, trace so far, enclosing regions) -/
theorem c01_walker (t : Ty) (path : Path) (sel : Option Int) (v : Val) (bs : List Byte) (evs : List SEv)
    (h : spec t path sel v = some (bs, evs)) (rest : List Byte) (pos : Nat) (out : List (Nat × Event))
    (scs : List SC) (hroom : Room scs bs.length) (hfresh : Fresh scs pos) :
    decode true t path sel ⟨bs ++ rest, pos, out, scs⟩ = .ok (v, post rest pos out evs scs bs.length) :=
  decode_ok t path sel v bs evs h rest pos out scs hroom hfresh

/-- top level: `process(T, root)` on exactly the encoding returns the value, the dictated events (stamped
with the number of bytes consumed when each was emitted), nothing left over, no region left open -/
theorem c01_top (t : Ty) (v : Val) (bs : List Byte) (evs : List SEv)
    (h : spec t rootPath none v = some (bs, evs)) (tb : MsgTables) :
    runWalker true tb (.ty t) bs = .ok (v, ⟨[], bs.length, stamp 0 evs, []⟩) := by
  simpa using decode_top t v bs evs h [] tb

/-- non-vacuity: over the real (regenerated) tables, a `TPML_DIGEST_VALUES` with a null arm and a SHA-1
arm conforms, and its encoding and events are what one expects (28 bytes, 30 events) -/
def exampleDigests : Val := .obj "TPML_DIGEST_VALUES" false
  [("count", .int "UINT32" 2),
   ("digests", .list [
      .obj "TPMT_HA" false [("hashAlg", .int "TPMI_ALG_HASH" 16), ("digest", .none)],
      .obj "TPMT_HA" false [("hashAlg", .int "TPMI_ALG_HASH" 4),
        ("digest", .obj "TPMU_HA" false [("sha1", .list ((List.range 20).map fun (i : Nat) => Val.int "BYTE" (i : Int)))])]])]

set_option maxRecDepth 100000 in
example : ((spec Generated.T_TPML_DIGEST_VALUES rootPath none exampleDigests).map
    (fun be => (be.1.length, be.2.length))) = some (28, 30) := by decide +kernel

-- … and the walker model, run by the kernel on that encoding, ends with nothing left and 30 events
set_option maxRecDepth 100000 in
example : (match spec Generated.T_TPML_DIGEST_VALUES rootPath none exampleDigests with
    | some (bs, _) => (match runWalker true Generated.msgTables (.ty Generated.T_TPML_DIGEST_VALUES) bs with
        | .ok (_, s) => (s.inp.length, s.out.length) | _ => (1, 0))
    | none => (2, 0)) = (0, 30) := by decide +kernel

end C01
