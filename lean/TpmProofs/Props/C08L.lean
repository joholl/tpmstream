import TpmProofs.Lenient
import TpmProofs.Props.C08V
import TpmProofs.Modes
import TpmProofs.MsgOk
import TpmProofs.Props.AcceptIff
/-!
# C08 — the value-only clause: warn mode = the lenient field-by-field interpretation + one warning after each offending field

*Lenient interpretation* = strict decoding under the same tables with every declared set widened to "any integer of the field's
width" (`MsgTables.relax` / `Ty.relax`: structure, names, widths, signedness, selectors, counts, command-code maps untouched).  It accepts
an input exactly when the input's sizes, counts and selectors are consistent — i.e. when out-of-range values are the only thing
that can be wrong with it.

For every layout of /repo, commands, responses (any command code, either flag), streams and EVERY input that the lenient
interpretation accepts (`TpmProofs/Lenient.lean`, a simulation between the two runs; no side conditions on the tables):

* `c08_lenient_object`: warn mode returns the same object and consumes the same input;
* `c08_lenient_events`: the warn-mode trace with its value warnings erased IS the lenient trace (same events, same stamps);
* `c08_lenient_only_value_warnings`: the only warnings warn mode emits are value warnings;
* with `C08V`: each of them stands directly behind the event of the field it names, and every field with a disallowed value has one.

That is the statement "when the only problems are out-of-range field values the events equal the lenient field-by-field
interpretation with one warning directly after each offending event".
-/
namespace C08

theorem c08_lenient (top : Top) (x : List Byte) (v : Val) (t' : St)
    (h : runWalker true Generated.msgTables.relax top.relax x = .ok (v, t')) :
    ∃ t, runWalker false Generated.msgTables top x = .ok (v, t) ∧ t'.out = eraseVW t.out ∧ t'.inp = t.inp ∧ t'.pos = t.pos :=
  runWalker_sim Generated.msgTables top x v t' h

/-- same object, same input consumed -/
theorem c08_lenient_object (top : Top) (x : List Byte) (v : Val) (t' : St)
    (h : runWalker true Generated.msgTables.relax top.relax x = .ok (v, t')) :
    ∃ t, runWalker false Generated.msgTables top x = .ok (v, t) ∧ t.inp = t'.inp := by
  obtain ⟨t, ht, _, hi, _⟩ := c08_lenient top x v t' h
  exact ⟨t, ht, hi.symm⟩

/-- the warn-mode trace without its value warnings is the lenient trace -/
theorem c08_lenient_events (top : Top) (x : List Byte) (v : Val) (t' : St)
    (h : runWalker true Generated.msgTables.relax top.relax x = .ok (v, t')) :
    eraseVW (stOf (runWalker false Generated.msgTables top x)).out = (stOf (runWalker true Generated.msgTables.relax top.relax x)).out := by
  obtain ⟨t, ht, ho, _, _⟩ := c08_lenient top x v t' h
  rw [ht, h]; exact ho.symm

/-- … and there are no other warnings in it -/
theorem c08_lenient_only_value_warnings (top : Top) (x : List Byte) (v : Val) (t' : St)
    (h : runWalker true Generated.msgTables.relax top.relax x = .ok (v, t')) :
    ∀ ke ∈ (stOf (runWalker false Generated.msgTables top x)).out, ∀ w, ke.2 = .warning w → ∃ pa c y, w = .value pa c y := by
  obtain ⟨t, ht, ho, _, _⟩ := c08_lenient top x v t' h
  rw [ht]
  intro ke hke w hw
  simp only [stOf] at hke
  -- if `ke` were not a value warning it would survive the erasure and be a warning in a strict trace
  by_cases hv : isVW ke.2 = true
  · rw [hw] at hv
    cases w <;> simp [isVW] at hv
    exact ⟨_, _, _, rfl⟩
  · have hmem : ke ∈ eraseVW t.out := by
      simp only [eraseVW, List.mem_filter]
      exact ⟨hke, by simpa using hv⟩
    rw [← ho] at hmem
    have hnw := runWalker_nw Generated.msgTables.relax top.relax x ke (by rw [h]; exact hmem)
    rw [hw] at hnw
    simp [Event.isMarshal] at hnw

/-! ### what "the lenient interpretation accepts" means, in terms of the specification

Over the relaxed tables acceptance is well-formedness with respect to the *relaxed* specification: every size field equals the
length of what it governs, every count the number of elements, selectors pick a member, sessions iff the tag says so — and no
condition on the values. -/

/-- (tables) the relaxed tables meet the side conditions of the soundness theorems -/
theorem relaxed_tables_wf : Generated.msgTables.relax.wf = true := by decide +kernel

/-- **commands**: the lenient interpretation accepts `x` (and consumes it) iff `x` is a well-formed command of the relaxed specification -/
theorem c08_lenient_command_iff (x : List Byte) (v : Val) :
    (∃ s', runWalker true Generated.msgTables.relax .command x = .ok (v, s') ∧ s'.inp = []) ↔
      ∃ p evs, v = p.toVal ∧ specCommand Generated.msgTables.relax rootPath p = some (x, evs) :=
  AcceptIff.command_walker_iff _ relaxed_tables_wf x v

/-- **responses** (any command code, either flag): likewise -/
theorem c08_lenient_response_iff (cc : Option Int) (enc : Bool) (x : List Byte) (v : Val) :
    (∃ s', runWalker true Generated.msgTables.relax (.response cc enc) x = .ok (v, s') ∧ s'.inp = []) ↔
      ∃ p evs, v = p.toVal ∧ specResponse Generated.msgTables.relax cc enc rootPath p = some (x, evs) :=
  AcceptIff.response_walker_iff _ relaxed_tables_wf cc enc x v

/-- not vacuous: the lenient interpretation accepts the Startup command whose `startupType` is 0x42 (strict decoding under the
real tables rejects it), kernel-evaluated -/
example : (match runWalker true Generated.msgTables.relax Top.command.relax
      [0x80, 0x01, 0x00, 0x00, 0x00, 0x0c, 0x00, 0x00, 0x01, 0x44, 0x00, 0x42] with
    | .ok _ => true | .error _ => false) = true ∧
    (match runWalker true Generated.msgTables Top.command
      [0x80, 0x01, 0x00, 0x00, 0x00, 0x0c, 0x00, 0x00, 0x01, 0x44, 0x00, 0x42] with
    | .ok _ => true | .error _ => false) = false := by decide +kernel

end C08
