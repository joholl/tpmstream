import TpmProofs.E2OStream
import TpmProofs.Props.C11E
import TpmProofs.Props.C09
/-!
# C09, second sentence: a decoded stream turned into objects gives one object per message, in order

`e2oStream` / `separateEvents` model `events_to_objs` / `separate_events` (`common/object.py`), tied to the code by the `E2OS`
correspondence.
-/

namespace C09

theorem evs_shown (n : Nat) (evs : List SEv) (o : Outcome) (cc : Option Int) :
    (⟨shown n (stamp 0 evs), o, cc⟩ : Run).evs = mEvs evs := by
  simp [Run.evs, stamp, mEvs, List.map_map, Function.comp_def]

/-- **C09 (objects)**: for every stream that is a sequence of well-formed exchanges (optionally ending with a command whose
response has not arrived): `events_to_objs` of the events the strict stream decode shows yields exactly the messages' objects,
one per message, in order — each response rebuilt with the code of the command immediately before it — and does not raise -/
theorem c09_objects (last : Option CmdParts) (xs : List (CmdParts × RspParts)) (bs : List Byte) (evs : List SEv)
    (h : specStream Generated.msgTables rootPath last xs = some (bs, evs)) :
    e2oStream Generated.msgTables none (separateEvents (marshalRun true Generated.msgTables .stream bs).evs []) =
      (streamObjs last xs, false) := by
  rw [MsgWF.c09_stream last xs bs evs h, evs_shown, separate_stream _ last xs bs evs h []]
  simp only [List.isEmpty_nil, if_true, List.nil_append]
  exact e2oStream_groups _ C11.c11_e2o_msg_tables last xs bs evs h

/-- with `stream_accept_iff`: whenever the strict stream decode ends cleanly, the objects are the messages' objects -/
theorem c09_objects_of_accepted (x : List Byte) (hrun : ∃ v s', runWalker true Generated.msgTables .stream x = .ok (v, s')) :
    ∃ xs last, e2oStream Generated.msgTables none (separateEvents (marshalRun true Generated.msgTables .stream x).evs []) =
      (streamObjs last xs, false) ∧ (streamObjs last xs).length = 2 * xs.length + (if last.isSome then 1 else 0) := by
  obtain ⟨xs, last, evs, h⟩ := (AcceptIff.stream_accept_iff x).mp hrun
  refine ⟨xs, last, c09_objects last xs x evs h, ?_⟩
  clear h hrun
  induction xs with
  | nil => cases last <;> simp [streamObjs]
  | cons cr more ih => obtain ⟨c, r⟩ := cr; simp only [streamObjs, List.length_cons, ih]; omega

end C09
