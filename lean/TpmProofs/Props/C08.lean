import TpmProofs.PumpFacts
import TpmProofs.Props.C07
import TpmProofs.Props.C06
import TpmProofs.DecodeOk
/-!
# C08 — warn mode reports problems as warnings and keeps decoding

Proved here: the two recovery steps do what the statement says (skip exactly to the end the violated size
field declares; pad exactly to it).  The whole-run statements are in `Props/C08W.lean` (no size error escapes; tiling),
`C08N.lean` (no internal error), `C08V.lean` (value warnings) and `C08L.lean` (the lenient interpretation).
-/
namespace C08

/-- overrun: when a field of width `size` would cross the end of region `c` (`already + size > max`),
the walker consumes exactly the `max - already` bytes that remain of the region — decoding resumes at the
end the size field declares — and reports `exceeded` naming the region, its limit, the bytes counted so far,
the violator and the excess; the enclosing regions (`done`, already charged `size`) end up charged exactly
the consumed bytes, and the regions nested in `c` (`rest`) end with it -/
theorem c08_skip_exceeded (path : Path) (size : Nat) (c : SC) (rest done : List SC) (s : St) (m : Nat)
    (hm : c.max = some m) (hover : m < c.already + size) (hlen : m - c.already ≤ s.inp.length) :
    bpGo path size done (c :: rest) s =
      .error (.exceeded c.id c.path m c.already path (c.already + size - m),
        { s with scs := done.map (fun d => { d with already := d.already - (size - (m - c.already)) }),
                 inp := s.inp.drop (m - c.already), pos := s.pos + (m - c.already) }) := by
  have ho : c.over size = true := by simp [SC.over, hm, hover]
  have hnlt : ¬ (s.inp.length < m - c.already) := by omega
  simp [bpGo, ho, hm, consume, take, hnlt, R.bind]

/-- shortfall: when a region ends short (`already < max`), warn mode reports `subceeded`, charges the
`max - already` bytes of padding to the enclosing regions (here: they have room) and consumes exactly
those bytes — decoding resumes at the end the size field declares -/
theorem c08_pad_subceeded (c : SC) (s : St) (m : Nat) (hm : c.max = some m) (hlt : c.already < m)
    (hlen : m - c.already ≤ s.inp.length) (hroom : Room s.scs (m - c.already)) :
    assertDoneSC false c s =
      .ok ((), { s with out := s.out ++ [(s.pos, .warning (.subceeded c.id c.path m c.already))],
                        inp := s.inp.drop (m - c.already), pos := s.pos + (m - c.already),
                        scs := bump s.scs (m - c.already) }) := by
  have hne : c.already ≠ m := by omega
  have hnlt : ¬ (s.inp.length < m - c.already) := by omega
  have hb := bytesParsed_ok c.path (m - c.already) s.inp s.pos
    (s.out ++ [(s.pos, .warning (.subceeded c.id c.path m c.already))]) s.scs hroom
  simp [assertDoneSC, hm, hne, hlt, emitW, emit, hb, consume, take, hnlt, R.bind]

end C08
