import TpmProofs.TruncPump
import TpmModel.Generated.Cmd
/-!
# C03 / C04 — the outcome of a strict decode is decided by the bytes consumed up to that point

"Strict mode raises at a point where the inconsistency is *decidable*": whatever strict decoding of a structure, command or response
ends with — the object, or an error with all its details — having consumed `u` bytes, it ends the same way, with the same events
before it and the same state (but for the unread rest), on EVERY input that agrees with `x` on its first `u` bytes, unless the run
on `x` stopped for lack of input.  So the verdict never depends on bytes the decoder has not looked at: an error is raised on the
evidence of the consumed prefix alone, and nothing behind that prefix can withdraw it or turn an accepted value into a rejected one
(only add surplus).  From the truncation relation `TRB` (TpmProofs/Trunc.lean).

This is the "decidable" half of C03's *earliest point* clause; that no shorter prefix already decides the verdict (the "earliest"
half) is not a theorem — it is monitored (fault enumeration with the expected error per fault).
-/
namespace C03

/-- forget the unread rest of the input -/
def noRest {α : Type} (r : R α) : R α := r.mapSt (cutSt 0)

theorem mapSt_cut_cut {α : Type} (r : R α) (j : Nat) : (r.mapSt (cutSt j)).mapSt (cutSt 0) = r.mapSt (cutSt 0) := by
  cases r with
  | ok vs => obtain ⟨v, s⟩ := vs; simp [R.mapSt, cutSt]
  | error es => obtain ⟨e, s⟩ := es; simp [R.mapSt, cutSt]

theorem c03_decided_by_consumed_prefix (tb : MsgTables) (top : Top) (hs : top.isStream = false) (x x' : List Byte)
    (hnd : ∀ t, runWalker true tb top x ≠ .error (.depleted, t))
    (hpre : x'.take (stOf (runWalker true tb top x)).pos = x.take (stOf (runWalker true tb top x)).pos) :
    noRest (runWalker true tb top x') = noRest (runWalker true tb top x) := by
  change x'.take (consumed tb top x) = x.take (consumed tb top x) at hpre
  -- the run on the consumed prefix of x is the run on x with the rest cut off
  have e1 := truncated_beyond tb top hs x _ (Nat.le_refl (consumed tb top x))
  by_cases hle : consumed tb top x' ≤ consumed tb top x
  · -- the same prefix is a prefix of x', which consumes no more of it
    have e2 := truncated_beyond tb top hs x' _ hle
    rw [hpre, e1] at e2
    unfold noRest
    rw [← mapSt_cut_cut (runWalker true tb top x') _, ← e2, mapSt_cut_cut]
  · -- x' would consume more: then the run on the common prefix ends `depleted`, but it is the run on x, which does not
    exfalso
    obtain ⟨t, ht, _⟩ := truncated_walker tb top hs x' (consumed tb top x) (by omega)
    rw [hpre, e1] at ht
    cases hr : runWalker true tb top x with
    | ok vs => obtain ⟨v, s⟩ := vs; rw [hr] at ht; simp [R.mapSt] at ht
    | error es =>
      obtain ⟨e, s⟩ := es
      rw [hr] at ht
      simp only [R.mapSt, Except.error.injEq, Prod.mk.injEq] at ht
      exact hnd s (by rw [hr, ht.1])

/-- not vacuous (kernel-evaluated): a Startup command with a bad `startupType` is rejected, not for lack of input -/
example : (match runWalker true Generated.msgTables .command [0x80, 0x01, 0, 0, 0, 0x0c, 0, 0, 0x01, 0x44, 0, 0x42] with
    | .error (.depleted, _) => false | .error _ => true | .ok _ => false) = true := by decide +kernel

end C03
