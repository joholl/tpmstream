import TpmProofs.MsgSound
import TpmProofs.MsgPump
import TpmProofs.Props.MsgWF
import TpmProofs.Props.C03
import TpmProofs.Props.C01
import TpmProofs.Props.C04
import TpmProofs.Props.C09
/-!
# Strict acceptance ⇔ well-formedness, for commands, responses and streams (C01, C03, C04, C05)

Over the regenerated tables.  `⇐` is `decodeCommand_ok` & co. (every well-formed message is accepted with exactly the
dictated events); `⇒` is `decodeCommand_sound` & co. (whatever is accepted is well-formed: every size field equals
the length of what it governs, every value is in its declared set, sessions iff the tag says so …).
-/
namespace AcceptIff

/-- (tables) the side conditions of the converse hold of the layouts in `/repo`: non-empty tag fields, size fields of
buffers and signed fields at least one byte wide, sessions never empty -/
theorem tables_wf : Generated.msgTables.wf = true := by decide +kernel

/-- for any tables that meet the side conditions: the strict walker accepts all of `x` as a command iff `x` is a well-formed
command of those tables -/
theorem command_walker_iff (tb : MsgTables) (hw : tb.wf = true) (x : List Byte) (v : Val) :
    (∃ s', runWalker true tb .command x = .ok (v, s') ∧ s'.inp = []) ↔
      ∃ p evs, v = p.toVal ∧ specCommand tb rootPath p = some (x, evs) := by
  constructor
  · rintro ⟨s', hr, hinp⟩
    obtain ⟨p, bs, evs, hv, hspec, hi, _⟩ := decodeCommand_sound tb hw rootPath (initSt x) s' v hr
    simp only [initSt, hinp, List.append_nil] at hi
    exact ⟨p, evs, hv, by rw [hspec, hi]⟩
  · rintro ⟨p, evs, rfl, h⟩
    exact ⟨_, command_walker tb p x evs (MsgTables.tag_pos hw).1 h, rfl⟩

theorem response_walker_iff (tb : MsgTables) (hw : tb.wf = true) (cc : Option Int) (enc : Bool) (x : List Byte) (v : Val) :
    (∃ s', runWalker true tb (.response cc enc) x = .ok (v, s') ∧ s'.inp = []) ↔
      ∃ p evs, v = p.toVal ∧ specResponse tb cc enc rootPath p = some (x, evs) := by
  constructor
  · rintro ⟨s', hr, hinp⟩
    obtain ⟨p, bs, evs, hv, hspec, hi, _⟩ := decodeResponse_sound tb hw cc enc rootPath (initSt x) s' v hr
    simp only [initSt, hinp, List.append_nil] at hi
    exact ⟨p, evs, hv, by rw [hspec, hi]⟩
  · rintro ⟨p, evs, rfl, h⟩
    exact ⟨_, response_walker tb cc enc p x evs (MsgTables.tag_pos hw).2 h, rfl⟩

/-- **commands: accepted ⇔ well-formed** -/
theorem command_accept_iff (x : List Byte) (v : Val) :
    (marshalRun true Generated.msgTables .command x).outcome = .done v ↔
      ∃ p evs, v = p.toVal ∧ specCommand Generated.msgTables rootPath p = some (x, evs) :=
  (outcome_done_iff rfl).trans (command_walker_iff _ tables_wf x v)

/-- **responses: accepted ⇔ well-formed**, for every command code and encryption flag -/
theorem response_accept_iff (cc : Option Int) (enc : Bool) (x : List Byte) (v : Val) :
    (marshalRun true Generated.msgTables (.response cc enc) x).outcome = .done v ↔
      ∃ p evs, v = p.toVal ∧ specResponse Generated.msgTables cc enc rootPath p = some (x, evs) :=
  (outcome_done_iff rfl).trans (response_walker_iff _ tables_wf cc enc x v)

/-- **structures: accepted ⇔ conforming** (every layout of `/repo`) -/
theorem type_accept_iff (t : Ty) (ht : t ∈ Generated.allTypes) (x : List Byte) (v : Val) :
    (marshalRun true Generated.msgTables (.ty t) x).outcome = .done v ↔ ∃ evs, spec t rootPath none v = some (x, evs) :=
  C03.c03_accept_iff t (List.all_eq_true.mp C03.c03_tables t ht) Generated.msgTables x v

/-- **streams: the stream loop ends cleanly ⇔ the input is a sequence of well-formed exchanges**, each response
well-formed for its command's code and the encryption flag its command's sessions request, optionally followed by a
well-formed command — i.e. a stream ends cleanly only at a message boundary (C05), and then its events are exactly
the messages' events one after the other (C09) -/
theorem stream_accept_iff (x : List Byte) :
    (∃ v s', runWalker true Generated.msgTables .stream x = .ok (v, s')) ↔
      ∃ xs last evs, specStream Generated.msgTables rootPath last xs = some (x, evs) := by
  constructor
  · rintro ⟨v, s', h⟩
    obtain ⟨xs, last, bs, evs, hspec, hi, _, _, _⟩ := decodeStream_sound Generated.msgTables tables_wf rootPath _ (initSt x) s' v
      (by simpa [runWalker] using h)
    simp only [initSt] at hi
    exact ⟨xs, last, evs, by rw [hspec, hi]⟩
  · rintro ⟨xs, last, evs, h⟩
    have hlen := specStream_len Generated.msgTables rootPath last MsgWF.tag_sizes.1 xs x evs h
    have := decodeStream_ok Generated.msgTables rootPath last MsgWF.tag_sizes.1 MsgWF.tag_sizes.2 xs x evs h
      (x.length + 1) (by omega) 0 [] []
    exact ⟨_, _, by simpa [runWalker, initSt] using this⟩

end AcceptIff
