import TpmProofs.PumpFacts
import TpmProofs.DecodeOk
import TpmProofs.Modes
/-!
# C07 — warn mode and strict mode agree up to the first problem
-/
namespace C07

/-- the pump treats the two modes alike: which events are shown, their pull counts and the tracked
command code depend only on the walker's trace, not on the mode -/
theorem c07_pump_events_mode_free (x : List Byte) (isStream : Bool) (r1 r2 : R Val) (h : (stOf r1).out = (stOf r2).out) :
    (pump isStream x r1).events = (pump isStream x r2).events ∧ (pump isStream x r1).cc = (pump isStream x r2).cc := by
  unfold pump; simp [h]

/-- `bytes_parsed` raises no value error: it ends with `exceeded`, or `depleted` while skipping to a region's end -/
theorem bytesParsed_no_value {path : Path} {size : Nat} {s t : St} {e : Err} (h : bytesParsed path size s = .error (e, t)) :
    ∀ pa c x, e ≠ .value pa c x := by
  rintro pa c x rfl
  unfold bytesParsed at h
  rcases bpGo_cases path size s.scs [] with hok | ⟨pre, c', post, -, -, hex⟩
  · rw [hok] at h; cases h
  · rw [hex, consume_eq] at h
    split at h <;> simp [R.bind] at h

/-- a value error of a strict primitive read comes from the validity test alone: the bytes had been counted and taken -/
theorem readPrim_value_inv {p : Prim} {path pa : Path} {s t : St} {c : String} {x : Int}
    (h : readPrim true p path s = .error (.value pa c x, t)) :
    ∃ s1 bs, bytesParsed path p.size s = .ok ((), s1) ∧ take p.size s1 = .ok (bs, t) ∧
      p.isValid (p.ofBytes bs) = false ∧ pa = path ∧ c = p.name ∧ x = p.ofBytes bs := by
  unfold readPrim at h
  cases hb : bytesParsed path p.size s with
  | error et =>
    obtain ⟨e, t'⟩ := et
    simp only [hb, R.bind_error, Except.error.injEq, Prod.mk.injEq] at h
    exact absurd h.1 (bytesParsed_no_value hb pa c x)
  | ok ut =>
    obtain ⟨_, s1⟩ := ut
    simp only [hb, R.bind_ok] at h
    cases ht : take p.size s1 with
    | error et =>
      obtain ⟨e, t'⟩ := et
      simp only [ht, R.bind_error, Except.error.injEq, Prod.mk.injEq] at h
      -- `take` fails with `depleted` only
      unfold take at ht
      split at ht
      · simp only [Except.error.injEq, Prod.mk.injEq] at ht
        rw [← ht.1] at h; simp at h
      · simp at ht
    | ok bt =>
      obtain ⟨bs, s2⟩ := bt
      simp only [ht, R.bind_ok, if_true] at h
      split at h
      · simp at h
      · rename_i hv
        simp only [Except.error.injEq, Prod.mk.injEq, Err.value.injEq] at h
        obtain ⟨⟨rfl, rfl, rfl⟩, rfl⟩ := h
        exact ⟨s1, bs, rfl, ht, by simpa using hv, rfl, rfl, rfl⟩

/-- per field: a primitive with a valid value behaves identically in both modes (same value, same event,
same state); with an out-of-range value strict mode raises the error without the event, warn mode emits
the offending event followed by a warning carrying the same error -/
theorem c07_prim (p : Prim) (path : Path) (s : St) :
    (∀ v s', readPrim true p path s = .ok (v, s') → readPrim false p path s = .ok (v, s')) ∧
    (∀ x s', readPrim true p path s = .error (.value path p.name x, s') →
      readPrim false p path s = .ok (.int p.name x,
        emitW (.value path p.name x) (emitM ⟨path, .named p.name false, some x, p.name, p.size⟩ s'))) := by
  constructor
  · intro v s' h
    have := readPrim_mrel p path s
    rwa [h] at this
  · intro x s' h
    obtain ⟨s1, bs, hb, ht, hv, -, -, rfl⟩ := readPrim_value_inv h
    simp [readPrim, hb, ht, hv]

/-! ## whole runs: every layout, every top (type / command / response / stream), EVERY input -/

/-- **strict succeeds ⇒ warn mode does exactly the same**: whenever the strict walker finishes without an error (the
input is then accepted, or reported as superfluous, or a stream ends cleanly), the warn-mode run is identical — the
same events with the same pull counts, the same outcome, no warning -/
theorem c07_strict_ok (tb : MsgTables) (top : Top) (x : List Byte) (v : Val) (t : St)
    (h : runWalker true tb top x = .ok (v, t)) : marshalRun false tb top x = marshalRun true tb top x := by
  have hrel := runWalker_mrel tb top x
  rw [h] at hrel
  simp only [MRel] at hrel
  simp only [marshalRun, h, hrel]

/-- **up to the first problem**: if strict mode raises a constraint error `e` after the trace `t.out`, then warn mode
either raises the very same error in the same state (the two errors it cannot continue after: a command code without
layouts, a selector without union member) or its trace is `t.out`, then — for a value error — the offending event,
then the warning carrying exactly `e`, then whatever follows.  `t.out` contains no warning (`c07_strict_no_warning`),
so that warning is warn mode's first. -/
theorem c07_first_problem (tb : MsgTables) (top : Top) (x : List Byte) (e : Err) (t : St)
    (h : runWalker true tb top x = .error (e, t)) (hp : e.isProblem = true) :
    runWalker false tb top x = .error (e, t) ∨ FirstW e t (stOf (runWalker false tb top x)).out := by
  have hrel := runWalker_mrel tb top x
  rw [h] at hrel
  simp only [MRel] at hrel
  rcases hrel with hrel | ⟨_, hrel⟩
  · exact Or.inl hrel
  · exact Or.inr hrel

/-- strict mode's other ways to stop — input depleted, internal error — are warn mode's too, in the same state -/
theorem c07_same_stop (tb : MsgTables) (top : Top) (x : List Byte) (e : Err) (t : St)
    (h : runWalker true tb top x = .error (e, t)) (hp : e.isProblem = false) :
    runWalker false tb top x = .error (e, t) := by
  have hrel := runWalker_mrel tb top x
  rw [h] at hrel
  simp only [MRel] at hrel
  rcases hrel with hrel | ⟨hp', _⟩
  · exact hrel
  · rw [hp] at hp'; cases hp'

/-- strict mode never emits a warning -/
theorem c07_strict_no_warning (tb : MsgTables) (top : Top) (x : List Byte) :
    ∀ ke ∈ (stOf (runWalker true tb top x)).out, ke.2.isMarshal = true := runWalker_nw tb top x

/-- **no warning ⇒ strict accepts**: if the warn-mode walker finishes without an error and its trace contains no
warning, the strict walker finishes with the same result -/
theorem c07_no_warning (tb : MsgTables) (top : Top) (x : List Byte) (v : Val) (t : St)
    (h : runWalker false tb top x = .ok (v, t)) (hnw : ∀ ke ∈ t.out, ke.2.isMarshal = true) :
    runWalker true tb top x = .ok (v, t) := by
  have hrel := runWalker_mrel tb top x
  cases hs : runWalker true tb top x with
  | ok vs =>
    obtain ⟨v', t'⟩ := vs
    rw [hs] at hrel
    simp only [MRel] at hrel
    rw [h] at hrel
    exact hrel.symm ▸ rfl
  | error es =>
    obtain ⟨e, t'⟩ := es
    rw [hs] at hrel
    simp only [MRel] at hrel
    rcases hrel with hrel | ⟨_, hw⟩
    · rw [h] at hrel; cases hrel
    · rw [h] at hw
      simp only [stOf] at hw
      exfalso
      rcases hw with ⟨rest, hw⟩ | ⟨ev, xx, rest, hw, _, _⟩
      · have := hnw (t'.pos, .warning e) (by rw [hw]; simp)
        simp [Event.isMarshal] at this
      · have := hnw (t'.pos, .warning e) (by rw [hw]; simp)
        simp [Event.isMarshal] at this

end C07
