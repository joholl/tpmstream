import TpmProofs.ValueWarn
import TpmProofs.Props.C04
/-!
# C08 / C07 — in warn mode every out-of-range value is shown and then reported, directly and exactly once

For every layout of /repo, commands, responses (any command code, either flag), streams and EVERY input, the trace of the
warn-mode decode is *well annotated* (`Annot`, TpmProofs/ValueWarn.lean) with respect to the regenerated primitive table:
reading it from the left, it consists of structure events, field events whose value is in the declared set of the event's class,
field events whose value is not — each directly followed by the warning about exactly that field (same path, class, integer) —
and warnings of the other kinds.  Hence

* `c08_value_warning_follows_its_field`: a `ValueConstraintViolatedError` warning never stands anywhere but directly behind the
  event of the field it names, and that field's value really is outside the declared set;
* `c08_offending_field_is_warned`: a field event with a value outside the declared set of its class is always directly followed by
  its warning — "one warning directly after each offending event", at every position of every run, not only at the first problem
  (C07 proves the first).

Together with `C02.c02_warn_value_only` (a run that reports only such warnings re-encodes to the input) and `c08_tiling` (each
field's bytes are the next input bytes at the declared width) this is the value-only clause of C08 (the equality with a separately defined
lenient interpreter is `Props/C08L.lean`): the fields shown are the input read field by field, every field is shown whether or not its
value is allowed, and the disallowed ones are marked one by one.
-/
namespace C08

/-- (tables) every primitive type any layout of /repo or the message framing mentions is the table's entry for its name -/
theorem c08_value_tables :
    Generated.msgTables.pk (kn C04.tablePrim) = true ∧ Generated.allTypes.all (Ty.pk (kn C04.tablePrim)) = true :=
  C04.tables_prims_known

/-- **the warn-mode trace is well annotated** -/
theorem c08_annotated (top : Top) (htop : ∀ t, top = .ty t → t ∈ Generated.allTypes) (x : List Byte) :
    Annot C04.tablePrim ((stOf (runWalker false Generated.msgTables top x)).out.map (·.2)) :=
  runWalker_vw Generated.msgTables c08_value_tables.1 top
    (fun t ht => List.all_eq_true.mp c08_value_tables.2 t (htop t ht)) x

/-- a value warning stands directly behind the event of the field it names; that field holds exactly the reported integer, and
the integer is outside the declared set of the field's class -/
theorem c08_value_warning_follows_its_field (top : Top) (htop : ∀ t, top = .ty t → t ∈ Generated.allTypes) (x : List Byte)
    (pre post : List Event) (pa : Path) (c : String) (v : Int)
    (h : (stOf (runWalker false Generated.msgTables top x)).out.map (·.2) = pre ++ .warning (.value pa c v) :: post) :
    ∃ pre' m p, pre = pre' ++ [.marshal m] ∧ m.path = pa ∧ m.vclass = c ∧ m.val = some v ∧
      C04.tablePrim c = some p ∧ p.isValid v = false :=
  (c08_annotated top htop x).warning_follows pre pa c v post h

/-- a field event whose value is outside the declared set of its class is directly followed by the warning about exactly it -/
theorem c08_offending_field_is_warned (top : Top) (htop : ∀ t, top = .ty t → t ∈ Generated.allTypes) (x : List Byte)
    (pre post : List Event) (m : MEvent) (v : Int) (p : Prim)
    (h : (stOf (runWalker false Generated.msgTables top x)).out.map (·.2) = pre ++ .marshal m :: post)
    (hv : m.val = some v) (hk : C04.tablePrim m.vclass = some p) (hb : p.isValid v = false) :
    ∃ post', post = .warning (.value m.path m.vclass v) :: post' :=
  (c08_annotated top htop x).offender_warned pre m v p post h hv hk hb

/-- not vacuous: a Startup command whose `startupType` is 0x42 — the warn-mode trace holds a value warning (kernel-evaluated) -/
example : ((stOf (runWalker false Generated.msgTables .command
      [0x80, 0x01, 0x00, 0x00, 0x00, 0x0c, 0x00, 0x00, 0x01, 0x44, 0x00, 0x42])).out.map (·.2)).any
    (fun e => match e with | .warning (.value _ _ 0x42) => true | _ => false) = true := by decide +kernel

end C08
