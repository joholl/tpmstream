import TpmProofs.ShapeMsg
import TpmProofs.Props.C14E
import TpmProofs.Props.C14W
import TpmProofs.Props.C14R
import TpmProofs.MsgPump
import TpmProofs.Props.C04
import TpmProofs.Props.C16
import TpmProofs.Props.C02S
/-!
# C14: every event stream the decoder produces — in either mode, on every input — is shaped, so the printers cannot fail on it
-/

namespace C14

/-- the events a run shows are a prefix of the walker's trace -/
theorem run_evs_prefix (abort : Bool) (tb : MsgTables) (top : Top) (x : List Byte) :
    (marshalRun abort tb top x).events.map (·.2) <+: (stOf (runWalker abort tb top x)).out.map (·.2) := by
  obtain ⟨pre, hp, he⟩ := marshalRun_events_prefix abort tb top x
  rw [he, shown_map_snd]
  exact hp.map _

/-- what `streamOf` puts behind the events shown — nothing, or the final warning of a warn-mode run — is a list of warnings -/
theorem streamOf_tail_gw (abort : Bool) (o : Outcome) :
    GW (if abort then [] else match o with
      | .depleted => [Event.warning .depleted]
      | .superfluous _ _ => [Event.warning .depleted]
      | _ => []) := by
  split
  · exact GW.nil
  · split <;> first | exact GW.cons_w _ GW.nil | exact GW.nil

/-- **C14 for the decoder**: for every layout table meeting the (kernel-checked) side conditions, every top-level decode, either
mode and EVERY input, the event stream a consumer sees is shaped: every value is of a primitive class the printers know, and the
events that directly follow a byte-buffer event as its children carry values -/
theorem decoder_shaped (env : PrintEnv) (abort : Bool) (tb : MsgTables)
    (h : tb.shapeOk (fun p => (env.prim p.name).isSome) = true) (top : Top)
    (htop : ∀ t, top = .ty t → t.shapeOk (fun p => (env.prim p.name).isSome) = true) (x : List Byte) :
    shapedB env (streamOf abort (marshalRun abort tb top x)) = true := by
  have hpk : PrimLink abort (fun p => (env.prim p.name).isSome) (fun m => (env.prim m.vclass).isSome = true) :=
    fun p hp σ x _ => hp
  obtain ⟨new, ho, hgd⟩ := runWalker_gd abort hpk tb h top htop x
  simp only [initSt, List.nil_append] at ho
  obtain ⟨suffix, hsplit⟩ := run_evs_prefix abort tb top x
  rw [ho] at hsplit
  -- the shown events
  have hk : kidsOk ((marshalRun abort tb top x).events.map (·.2)) = true :=
    kidsOk_prefix _ suffix (by rw [hsplit]; exact hgd.2)
  have hr : ∀ e ∈ (marshalRun abort tb top x).events.map (·.2), resolvesB env e = true := by
    intro e he
    cases e with
    | warning w => rfl
    | marshal m =>
      have hm : .marshal m ∈ new.map (·.2) := by rw [← hsplit]; exact List.mem_append_left _ he
      have := (hgd.1 m hm).2
      simp only [resolvesB, Bool.or_eq_true]
      cases hv : m.val with
      | none => left; rfl
      | some y => right; exact this (by rw [hv]; rfl)
  have hW := streamOf_tail_gw abort (marshalRun abort tb top x).outcome
  unfold streamOf shapedB
  simp only [Bool.and_eq_true, List.all_eq_true]
  refine ⟨fun e he => ?_, kidsOk_append _ _ hk (kidsOk_gw _ hW) (fun p _ _ => bytesRun_gw _ _ hW)⟩
  rcases List.mem_append.mp he with he | he
  · exact hr e he
  · have := hW e he
    cases e with
    | warning w => rfl
    | marshal m => simp [isWarn] at this

/-- the printers' environment over the regenerated primitive table (the one `tableEnv` of the non-vacuity file) -/
theorem c14_shape_tables :
    Generated.msgTables.shapeOk (fun p => (tableEnv.prim p.name).isSome) = true ∧
    Generated.allTypes.all (Ty.shapeOk fun p => (tableEnv.prim p.name).isSome) = true :=
  C04.tables_shapeOk fun p h => Option.isSome_iff_exists.mpr ⟨p, of_decide_eq_true h⟩

/-- **C14, totality for the decoder's streams**: for every layout of `/repo` (and the command, response and stream decoders),
either mode and EVERY byte string, pretty-printing the event stream that decoding yields returns rows -/
theorem c14_decoder_total (abort : Bool) (top : Top) (htop : ∀ t, top = .ty t → t ∈ Generated.allTypes) (x : List Byte) :
    ∃ rows, prettyRows tableEnv (streamOf abort (marshalRun abort Generated.msgTables top x)) = .ok rows :=
  c14_total_b tableEnv _ (decoder_shaped tableEnv abort Generated.msgTables c14_shape_tables.1 top
    (fun t ht => List.all_eq_true.mp c14_shape_tables.2 t (htop t ht)) x)

/-- **C14, rows ↔ events for the decoder's streams**: for every layout, either mode and EVERY byte string, the printer's rows are
the rendering of the blocks of the decoded stream (`C14R`): one row per event shown on its own, one row per byte buffer holding
all its bytes, one info row per warning, in event order -/
theorem c14_decoder_rows (abort : Bool) (top : Top) (htop : ∀ t, top = .ty t → t ∈ Generated.allTypes) (x : List Byte) :
    prettyRows tableEnv (streamOf abort (marshalRun abort Generated.msgTables top x)) =
      .ok (render tableEnv 0 (blocksOf (streamOf abort (marshalRun abort Generated.msgTables top x)))) := by
  obtain ⟨rows, h⟩ := c14_decoder_total abort top htop x
  rw [h, c14_rows_are_blocks _ _ _ h]

/-! ### the hex column is the input -/

/-- a field event's class is a primitive type of the table and the event carries that type's name and width (either mode) -/
def ClassOk (m : MEvent) : Prop :=
  ∃ p, C04.tablePrim m.vclass = some p ∧ m.ty = .named p.name false ∧ m.width = p.size

theorem class_link (abort : Bool) : PrimLink abort C04.knownPrim ClassOk := fun p hp σ x _ =>
  ⟨p, by simpa [C04.knownPrim] using hp, rfl, rfl⟩

/-- every field event a consumer sees, in either mode and for every input, is of a table class with that class's width -/
theorem decoder_classes (abort : Bool) (top : Top) (htop : ∀ t, top = .ty t → t ∈ Generated.allTypes) (x : List Byte) :
    ∀ m, .marshal m ∈ streamOf abort (marshalRun abort Generated.msgTables top x) → m.val.isSome = true → ClassOk m := by
  obtain ⟨suffix, hsplit⟩ := run_evs_prefix abort Generated.msgTables top x
  intro m hm hv
  unfold streamOf at hm
  rcases List.mem_append.mp hm with hm | hm
  · exact ((C04.trace_gd (class_link abort) top htop x).1 m (by rw [← hsplit]; exact List.mem_append_left _ hm)).2 hv
  · exact absurd (streamOf_tail_gw abort _ _ hm) (by simp [isWarn])

/-- for such events the printers' own re-encoding (`to_bytes` with its delegation to the looked-up class) is the declared-width
encoding of the value: the bytes `Binary.unmarshal` and C02/C13 speak about -/
theorem streamBytes_eq (evs : List Event) (h : ∀ m, .marshal m ∈ evs → m.val.isSome = true → ClassOk m) :
    streamBytes tableEnv evs = evsBytes evs := by
  induction evs with
  | nil => rfl
  | cons e rest ih =>
    have ih' := ih (fun m hm => h m (List.mem_cons_of_mem _ hm))
    simp only [streamBytes, evsBytes, List.flatMap_cons] at ih' ⊢
    rw [ih']
    congr 1
    cases e with
    | warning w => rfl
    | marshal m =>
      simp only [evBytesE, Event.bytes, MEvent.bytes, eventBytes]
      cases hv : m.val with
      | none => rfl
      | some y =>
        obtain ⟨p, hp, _, hw⟩ := h m (List.mem_cons_self ..) (by rw [hv]; rfl)
        have hp' : tableEnv.prim m.vclass = some p := hp
        simp only [hp', hw]
        have hmem : p ∈ Generated.allPrims := List.mem_of_find?_eq_some hp
        exact C16.c16_toBytes_declared p y (List.all_eq_true.mp C16.c16_owners_tables p hmem)

/-- **C14, hex column** for the decoder's streams: in either mode and for every input, the pretty printer returns rows whose
hex column, concatenated, is exactly the declared-width encoding of the fields shown -/
theorem c14_decoder_hex (abort : Bool) (top : Top) (htop : ∀ t, top = .ty t → t ∈ Generated.allTypes) (x : List Byte) :
    ∃ rows, prettyRows tableEnv (streamOf abort (marshalRun abort Generated.msgTables top x)) = .ok rows ∧
      rowsHex rows = evsBytes (streamOf abort (marshalRun abort Generated.msgTables top x)) := by
  obtain ⟨rows, hr⟩ := c14_decoder_total abort top htop x
  exact ⟨rows, hr, by rw [c14_hex_top _ _ _ hr, streamBytes_eq _ (decoder_classes abort top htop x)]⟩

/-- … which is the whole input whenever strict decoding accepts it (structures, commands, responses: `done`; streams: `silent`) -/
theorem c14_accepted_hex_is_input (top : Top) (htop : ∀ t, top = .ty t → t ∈ Generated.allTypes) (x : List Byte)
    (hacc : (∃ v, (marshalRun true Generated.msgTables top x).outcome = .done v) ∨
      (top = .stream ∧ (marshalRun true Generated.msgTables top x).outcome = .silent)) :
    ∃ rows, prettyRows tableEnv (streamOf true (marshalRun true Generated.msgTables top x)) = .ok rows ∧ rowsHex rows = x := by
  obtain ⟨rows, hr, hx⟩ := c14_decoder_hex true top htop x
  refine ⟨rows, hr, ?_⟩
  rw [hx]
  have hs : streamOf true (marshalRun true Generated.msgTables top x) = (marshalRun true Generated.msgTables top x).evs := by
    simp [streamOf, Run.evs]
  rw [hs]
  rcases hacc with ⟨v, hd⟩ | ⟨rfl, hsil⟩
  · exact C02.c02_strict _ top x v hd
  · exact C02.c02_stream _ x hsil

end C14
