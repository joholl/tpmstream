import TpmProofs.StreamFacts
import TpmProofs.Props.C08W
/-!
# C02 for command/response streams

`C02.c02_strict` speaks about runs with outcome `.done`; a stream run never has that outcome (a cleanly ending stream stops
silently at the announcement of the next message), so streams get their own statement.
-/
namespace C02

/-- **C02 (streams)**: for EVERY input, whenever strict decoding of a command/response stream ends without an error (silently),
concatenating the re-encoded events yields the input byte for byte -/
theorem c02_stream (tb : MsgTables) (x : List Byte) (h : (marshalRun true tb .stream x).outcome = .silent) :
    evsBytes (marshalRun true tb .stream x).evs = x := silent_facts tb x h

/-- each event of such a run re-encodes to exactly the slice of the input at its offset -/
theorem c02_stream_slices (tb : MsgTables) (x : List Byte) (h : (marshalRun true tb .stream x).outcome = .silent)
    (pre : List Event) (e : Event) (post : List Event) (hd : (marshalRun true tb .stream x).evs = pre ++ e :: post) :
    e.bytes = (x.drop (evsBytes pre).length).take e.bytes.length :=
  evsBytes_slice (c02_stream tb x h) hd

/-- non-vacuity: a `TPM2_Startup` command followed by its response, decoded as a stream, ends silently -/
example : (match (marshalRun true Generated.msgTables .stream
    [0x80, 0x01, 0, 0, 0, 0x0c, 0, 0, 0x01, 0x44, 0, 0, 0x80, 0x01, 0, 0, 0, 0x0a, 0, 0, 0, 0]).outcome with
    | .silent => true
    | _ => false) = true := by
  decide +kernel

end C02
