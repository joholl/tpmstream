import TpmModel.RcSpec
import TpmModel.Generated.Misc
import TpmModel.Pinned.Misc
/-!
# C18 — response codes are classified and named by the TPM 2.0 format rules

`rcSpec` is the TPM 2.0 Part 2 §6.6 rule stated on bit positions.  `rcClassify` is the model of
`TPM_RC.__format__` (mask arithmetic with the constants regenerated from `tpm_rc.py`).
The two agree on every natural number because each mask is a single bit or a contiguous run of bits: testing a one-bit
mask is `testBit`, and masking with a run and shifting it down is the specification's `field`.
-/
namespace C18

/-- the constants of TPM 2.0 Part 2, Table 14/15 -/
def stdMasks : RcMasks :=
  { reserved := 0xFFFFF000, tpm12 := 0x180, tpm12Code := 0x7F, fmt1 := 0x80, fmt1Code := 0x7F,
    fmt1Vendor := 0x400, fmt1Warning := 0x800, fmt1Reserved := 0x200, fmt0Param := 0x40,
    fmt0Session := 0x800, fmt0Code := 0x3F, fmt0ParamNum := 0xF00, fmt0HandleNum := 0x700,
    fmt0SessionNum := 0x700, shiftParam := 8, shiftHandle := 8, shiftSession := 8 }

/-- (tables) the constants in `/repo`'s `tpm_rc.py` are the specification's -/
theorem c18_masks : Generated.rcTables.masks = stdMasks := by decide +kernel

theorem and_low (v m : Nat) (hm : m < 4096) : v &&& m = (v % 4096) &&& m := by
  rw [← Nat.and_two_pow_sub_one_eq_mod v 12, Nat.and_assoc, Nat.and_comm (2 ^ 12 - 1) m,
    Nat.and_two_pow_sub_one_of_lt_two_pow hm]

theorem and_two_pow (v k : Nat) : v &&& 2 ^ k = if v.testBit k then 2 ^ k else 0 := by
  apply Nat.eq_of_testBit_eq
  intro j
  by_cases hkj : k = j
  · subst hkj; cases h : v.testBit k <;> simp [Nat.testBit_and, h]
  · cases h : v.testBit k <;> simp [Nat.testBit_and, hkj]

theorem bitsSet_two_pow (v k : Nat) : bitsSet v (2 ^ k) = v.testBit k := by
  unfold bitsSet
  rw [and_two_pow]
  cases v.testBit k <;> simp [Nat.ne_of_lt (Nat.two_pow_pos k)]

theorem bitsUnset_two_pow (v k : Nat) : bitsUnset v (2 ^ k) = !v.testBit k := by
  unfold bitsUnset
  rw [and_two_pow]
  cases v.testBit k <;> simp

theorem bitsUnset_or (v a b : Nat) : bitsUnset v (a ||| b) = (bitsUnset v a && bitsUnset v b) := by
  rw [Bool.eq_iff_iff]
  simp [bitsUnset, Nat.and_or_distrib_left, Nat.or_eq_zero_iff]

theorem unset_tpm12 (v : Nat) : bitsUnset v 0x180 = (!v.testBit 7 && !v.testBit 8) := by
  rw [← bitsUnset_two_pow, ← bitsUnset_two_pow, ← bitsUnset_or]; rfl

/-- the bits under a run of `n` ones starting at bit `lo`, shifted down, are the specification's `field v (lo + n - 1) lo` -/
theorem and_shift (v n lo : Nat) : (v &&& ((2 ^ n - 1) <<< lo)) >>> lo = (v / 2 ^ lo) % 2 ^ n := by
  rw [Nat.shiftRight_and_distrib, Nat.shiftLeft_shiftRight, Nat.and_two_pow_sub_one_eq_mod, Nat.shiftRight_eq_div_pow]

theorem classify_spec (v : Nat) : rcClassify stdMasks v = rcSpec v := by
  unfold rcClassify rcSpec
  have e2 : bitsSet v 0x80 = v.testBit 7 := bitsSet_two_pow v 7
  have e3 : bitsSet v 0x400 = v.testBit 10 := bitsSet_two_pow v 10
  have e4 : bitsSet v 0x800 = v.testBit 11 := bitsSet_two_pow v 11
  have e5 : bitsSet v 0x40 = v.testBit 6 := bitsSet_two_pow v 6
  have f1 : v &&& 0x7F = field v 6 0 := and_shift v 7 0
  have f2 : v &&& 0x3F = field v 5 0 := and_shift v 6 0
  have f3 : (v &&& 0xF00) >>> 8 = field v 11 8 := and_shift v 4 8
  have f4 : (v &&& 0x700) >>> 8 = field v 10 8 := and_shift v 3 8
  simp only [stdMasks, unset_tpm12, e2, e3, e4, e5, f1, f2, f3, f4]
  cases v.testBit 7 <;> cases v.testBit 8 <;> cases v.testBit 10 <;> cases v.testBit 11 <;> cases v.testBit 6 <;> rfl

/-- **C18 (format)**: for every response code whose low twelve bits are not all zero, and for zero,
the classification computed by the mask arithmetic of `TPM_RC.__format__` is the one the
specification's bit layout dictates — whatever the reserved high bits are. -/
theorem c18_format (v : Nat) (h : v = 0 ∨ v % 4096 ≠ 0) : rcClassify stdMasks v = rcSpec v := classify_spec v

/-- for the code in `/repo` (constants regenerated on every run) -/
theorem c18_format_repo (v : Nat) (h : v = 0 ∨ v % 4096 ≠ 0) : rcClassify Generated.rcTables.masks v = rcSpec v := by
  rw [c18_masks]; exact c18_format v h

/-- the result does not depend on the reserved high bits -/
theorem c18_high_bits (v : Nat) (h : v % 4096 ≠ 0) : rcClassify stdMasks v = rcClassify stdMasks (v % 4096) := by
  have hv : v ≠ 0 := by intro h0; simp [h0] at h
  unfold rcClassify bitsSet bitsUnset
  simp only [hv, h, if_false, stdMasks]
  have e1 := and_low v 0x180 (by decide); have e2 := and_low v 0x80 (by decide)
  have e3 := and_low v 0x400 (by decide); have e4 := and_low v 0x800 (by decide)
  have e5 := and_low v 0x7F (by decide); have e6 := and_low v 0x40 (by decide)
  have e7 := and_low v 0xF00 (by decide); have e8 := and_low v 0x700 (by decide)
  have e9 := and_low v 0x3F (by decide)
  simp only [e1, e2, e3, e4, e5, e6, e7, e8, e9]
  rfl


/-- the four row layouts a TPM 2.0 code can get -/
def rowsFmt0 : List (String × Nat) :=
  [("reserved0", 0xFFFFF000), ("format", 0x80), ("version", 0x100), ("vendorDefined", 0x400),
   ("severity", 0x800), ("reserved1", 0x200), ("code", 0x7F)]
def rowsParam : List (String × Nat) :=
  [("reserved0", 0xFFFFF000), ("format", 0x80), ("parameterError", 0x40), ("parameterNumber", 0xF00), ("code", 0x3F)]
def rowsSession : List (String × Nat) :=
  [("reserved0", 0xFFFFF000), ("format", 0x80), ("parameterError", 0x40), ("sessionError", 0x800),
   ("sessionNumber", 0x700), ("code", 0x3F)]
def rowsHandle : List (String × Nat) :=
  [("reserved0", 0xFFFFF000), ("format", 0x80), ("parameterError", 0x40), ("sessionError", 0x800),
   ("handleNumber", 0x700), ("code", 0x3F)]

/-- the rows carry the same classification as the text: which layout is shown is determined by the class -/
def rowsOfClass : RcClass → List (String × Nat)
  | .success => []
  | .tpm12 => []
  | .vendor => rowsFmt0
  | .named .fmt0Err _ _ => rowsFmt0
  | .named .fmt0Warn _ _ => rowsFmt0
  | .named .fmt1 _ (.parameter _) => rowsParam
  | .named .fmt1 _ (.session _) => rowsSession
  | .named .fmt1 _ _ => rowsHandle

/-- **C18 (rows)**: for every TPM 2.0 code (bit 7 or bit 8 set), the rows `attributes()` builds are the
layout that belongs to the code's classification … -/
theorem c18_rows_class (v : Nat) (h : v.testBit 7 = true ∨ v.testBit 8 = true) :
    rcRowsRaw stdMasks v = rowsOfClass (rcClassify stdMasks v) := by
  have hv : v ≠ 0 := by rintro rfl; simp at h
  have h12 : bitsUnset v 0x180 = false := by rw [unset_tpm12]; rcases h with h | h <;> simp [h]
  -- both sides branch on the same four mask tests
  cases e1 : bitsSet v 0x80 <;> cases e2 : bitsSet v 0x400 <;> cases e3 : bitsSet v 0x800 <;> cases e4 : bitsSet v 0x40 <;>
    simp only [rcRowsRaw, rcClassify, stdMasks, hv, h12, e1, e2, e3, e4, Bool.not_true, Bool.not_false, Bool.false_eq_true,
      if_true, if_false] <;> rfl

/-- … and each of those layouts partitions the 32-bit word: no bit shown twice, none hidden -/
theorem c18_rows_partition :
    partitions (rowsFmt0.map (·.2)) 32 = true ∧ partitions (rowsParam.map (·.2)) 32 = true ∧
    partitions (rowsSession.map (·.2)) 32 = true ∧ partitions (rowsHandle.map (·.2)) 32 = true := by
  refine ⟨?_, ?_, ?_, ?_⟩ <;> decide +kernel

/-- (tables) the name maps are the pinned ones (names, numbers, defaults) -/
theorem c18_names_pinned :
    Generated.rcTables.fmt0Err = Pinned.rcTables.fmt0Err ∧ Generated.rcTables.fmt0Warn = Pinned.rcTables.fmt0Warn ∧
    Generated.rcTables.fmt1 = Pinned.rcTables.fmt1 ∧
    Generated.rcTables.fmt0ErrDefault = Pinned.rcTables.fmt0ErrDefault ∧
    Generated.rcTables.fmt0WarnDefault = Pinned.rcTables.fmt0WarnDefault ∧
    Generated.rcTables.fmt1Default = Pinned.rcTables.fmt1Default := ⟨rfl, rfl, rfl, rfl, rfl, rfl⟩

/-- non-vacuity: `TPM_RC_VALUE | P | 1` = 0x1C4 is format-one error 4 on parameter 1; 0x922 is warning 0x22 -/
example : rcSpec 0x1C4 = .named .fmt1 4 (.parameter 1) ∧ rcSpec 0x922 = .named .fmt0Warn 0x22 .none ∧
    rcSpec 0xFFFF0984 = .named .fmt1 4 (.session 1) := by decide

end C18

/-! ### the rows' free-text details carry the classification of the text form -/

namespace C18

theorem unset_of_not_set (v k : Nat) (h : bitsSet v (2 ^ k) = false) : bitsUnset v (2 ^ k) = true := by
  rw [bitsUnset_two_pow, ← bitsSet_two_pow, h]; rfl

/-- the number the text form shows for a format-one code is the detail of the corresponding number row -/
def detailIn (d : RcDetail) (ds : List (String × String)) : Prop :=
  match d with
  | .none => True
  | .parameter k => ("parameterNumber", s!"Parameter No. {k}") ∈ ds
  | .session k => ("sessionNumber", s!"Session No. {k}") ∈ ds
  | .handle k => ("handleNumber", s!"Handle No. {k}") ∈ ds

/-- the shape of `c18_row_details` for rows computed from the looked-up name -/
theorem details_of_name {o : Option String} {f : String → List (String × String)} {d : RcDetail}
    (hf : ∀ n, ("code", n) ∈ f n ∧ detailIn d (f n)) :
    match o with
    | none => o.map f = none
    | some nm => ∃ ds, o.map f = some ds ∧ ("code", nm) ∈ ds ∧ detailIn d ds := by
  cases o with
  | none => rfl
  | some nm => exact ⟨_, rfl, hf nm⟩

/-- **C18 (row details)**: for every table with the specification's masks and every code that the text form names (class
`named m code d`): the `code` row's detail is the very name the text form shows, and the parameter / session / handle number of
the text form is the detail of the corresponding number row — the rows carry the same classification as the text -/
theorem c18_row_details (t : RcTables) (hm : t.masks = stdMasks) (v : Nat) (m : RcMap) (code : Nat) (d : RcDetail)
    (h : rcClassify t.masks v = .named m code d) :
    match t.name m code with
    | none => rcRowDetails t v = none
    | some nm => ∃ ds, rcRowDetails t v = some ds ∧ ("code", nm) ∈ ds ∧
        detailIn d ds := by
  unfold rcClassify at h
  unfold rcRowDetails
  by_cases hv : v = 0
  · simp [hv] at h
  by_cases h12 : bitsUnset v t.masks.tpm12 = true
  · simp [hv, h12] at h
  simp only [hv, h12, Bool.false_eq_true, if_false] at h ⊢
  by_cases hf : bitsSet v t.masks.fmt1 = true
  · -- format one: both sides choose the number by the same two tests
    simp only [hf, Bool.not_true, Bool.false_eq_true, if_false, RcClass.named.injEq] at h ⊢
    obtain ⟨rfl, rfl, rfl⟩ := h
    refine details_of_name fun n => ⟨by simp, ?_⟩
    by_cases hp : bitsSet v t.masks.fmt0Param = true
    · simp [hp, detailIn]
    · by_cases hs : bitsSet v t.masks.fmt0Session = true <;> simp [hp, hs, detailIn]
  · -- format zero: not vendor-defined, so the vendor bit (one bit) is unset
    simp only [hf, Bool.not_false, if_true] at h ⊢
    by_cases hvend : bitsSet v t.masks.fmt1Vendor = true
    · simp [hvend] at h
    have hvu : bitsUnset v t.masks.fmt1Vendor = true := by
      rw [hm] at hvend ⊢
      exact unset_of_not_set v 10 (by simpa [stdMasks] using hvend)
    simp only [hvend, hvu, Bool.false_eq_true, if_false, if_true] at h ⊢
    by_cases hw : bitsSet v t.masks.fmt1Warning = true
    · simp only [hw, if_true, RcClass.named.injEq] at h ⊢
      obtain ⟨rfl, rfl, rfl⟩ := h
      exact details_of_name fun n => ⟨by simp, trivial⟩
    · simp only [hw, Bool.false_eq_true, if_false, RcClass.named.injEq] at h ⊢
      obtain ⟨rfl, rfl, rfl⟩ := h
      exact details_of_name fun n => ⟨by simp, trivial⟩

/-- over the tables of `/repo` -/
theorem c18_row_details_repo (v : Nat) (m : RcMap) (code : Nat) (d : RcDetail)
    (h : rcClassify Generated.rcTables.masks v = .named m code d) :
    match Generated.rcTables.name m code with
    | none => rcRowDetails Generated.rcTables v = none
    | some nm => ∃ ds, rcRowDetails Generated.rcTables v = some ds ∧ ("code", nm) ∈ ds ∧
        detailIn d ds :=
  c18_row_details Generated.rcTables c18_masks v m code d h

end C18
