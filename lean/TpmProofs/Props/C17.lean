import TpmModel.Prim
import TpmModel.Generated.Prims
/-!
# C17 — attribute words decompose into fields that partition their bits
-/
namespace C17

def isBitfield (p : Prim) : Bool := match p.flavour with | .bitfield => true | _ => false

/-- (tables) for every attribute type the named fields' masks are pairwise disjoint and together cover
every bit of the word; decided by the kernel over the masks regenerated from `/repo` -/
theorem c17_partition_tables :
    (Generated.allPrims.filter isBitfield).all (fun p => partitions (p.masks.map (·.2)) (8 * p.size)) = true := by
  decide +kernel

/-- (tables) no field has an empty mask (the accessor loop would not terminate) -/
theorem c17_masks_nonzero :
    (Generated.allPrims.filter isBitfield).all (fun p => p.masks.all (fun nm => nm.2 != 0)) = true := by
  decide +kernel

/-- number of trailing zero bits, defined by the same halving as the accessor -/
def ctz : Nat → Nat → Nat
  | 0, _ => 0
  | fuel+1, m => if m % 2 = 1 then 0 else 1 + ctz fuel (m / 2)

theorem shiftDown_spec : ∀ (fuel bits mask : Nat), mask ≠ 0 → mask < 2 ^ fuel →
    shiftDown fuel bits mask = some (bits / 2 ^ ctz fuel mask) := by
  intro fuel
  induction fuel with
  | zero => intro bits mask h0 hlt; simp at hlt; omega
  | succ n ih =>
    intro bits mask h0 hlt
    unfold shiftDown ctz
    by_cases hodd : mask % 2 = 1
    · simp [hodd]
    · simp only [hodd, if_false]
      have h1 : mask / 2 ≠ 0 := by omega
      have h2 : mask / 2 < 2 ^ n := by
        rw [Nat.pow_succ] at hlt; omega
      rw [ih (bits / 2) (mask / 2) h1 h2, Nat.div_div_eq_div_mul, Nat.pow_add, Nat.pow_one, Nat.mul_comm]

/-- **accessor**: for a non-empty mask the field accessor returns exactly that field's bits,
right-aligned: `(v &&& mask) >>> ctz mask` -/
theorem c17_accessor (v mask : Nat) (h : mask ≠ 0) :
    bitGet v mask = some ((v &&& mask) >>> ctz (mask + 1) mask) := by
  unfold bitGet
  have hlt : mask < 2 ^ (mask + 1) := Nat.lt_of_lt_of_le Nat.lt_two_pow_self (Nat.pow_le_pow_right (by decide) (Nat.le_succ mask))
  rw [shiftDown_spec (mask + 1) (v &&& mask) mask h hlt, Nat.shiftRight_eq_div_pow]

/-- character shown at bit position `i` of a field's row -/
def rowChar (mask v i : Nat) : Char := if mask.testBit i then bitChar v i else '.'

theorem bitChar_ne_dot (v i : Nat) : bitChar v i ≠ '.' := by
  unfold bitChar; split <;> decide

/-- **overlay**: if the masks partition the word then at every bit position exactly one row shows a
digit, that digit is the value's bit, and all other rows show a dot — overlaying the rows reproduces
the binary value with no bit shown twice or hidden -/
theorem c17_overlay (masks : List Nat) (w v i : Nat) (hp : partitions masks w = true) (hi : i < w) :
    (masks.filter (fun m => rowChar m v i != '.')).length = 1 ∧
    ∀ m ∈ masks, rowChar m v i = '.' ∨ rowChar m v i = bitChar v i := by
  unfold partitions at hp
  simp only [Bool.and_eq_true, List.all_eq_true, List.mem_range, beq_iff_eq] at hp
  have h1 := hp.1 i hi
  constructor
  · have : (masks.filter fun m => rowChar m v i != '.') = masks.filter fun m => m.testBit i := by
      apply List.filter_congr
      intro m _
      unfold rowChar
      by_cases hm : m.testBit i
      · simp [hm, bitChar_ne_dot]
      · simp [hm]
    rw [this]; exact h1
  · intro m _
    unfold rowChar
    by_cases hm : m.testBit i <;> simp [hm]

/-- the row string is `rowChar` at each position, most significant bit first -/
theorem c17_row (width mask v : Nat) :
    bitsRow width mask v = String.ofList ((List.range width).reverse.map (rowChar mask v)) := rfl

/-- non-vacuity: `TPMA_SESSION` (7 fields over 8 bits) is one of the tables, and its `decrypt` accessor
on 0x61 gives 1 -/
example : (Generated.P_TPMA_SESSION.masks.map (·.2)) = [1, 2, 4, 0x18, 0x20, 0x40, 0x80] ∧
    bitGet 0x61 0x20 = some 1 ∧ bitGet 0x58 0x18 = some 3 := by decide +kernel

end C17
