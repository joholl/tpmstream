import TpmModel.Prim
import TpmModel.Generated.Prims
import TpmModel.Generated.Misc
import TpmProofs.BE
/-!
# C16 — protocol integers carry their value, width, validity and name faithfully
-/
namespace C16

/-! ### byte form: big-endian two's complement of the declared width -/

/-- width: every typed integer serialises to exactly the declared number of bytes -/
theorem c16_width (size : Nat) (x : Int) : (intToBytes size x).length = size := intToBytes_length size x

/-- decoding the byte form gives the integer back, for every integer representable in the width
(both signednesses, every width) -/
theorem c16_roundtrip (size : Nat) (signed : Bool) (x : Int) (h : inRange size signed x = true) :
    intOfBytes size signed (intToBytes size x) = x := intOfBytes_intToBytes size signed x h

/-- and every byte string of the declared width is the byte form of the integer it decodes to -/
theorem c16_roundtrip_bytes (size : Nat) (signed : Bool) (bs : List Byte) (h : bs.length = size) :
    intToBytes size (intOfBytes size signed bs) = bs := intToBytes_intOfBytes size signed bs h

def itemOwnerAgrees (size : Nat) (signed : Bool) : VItem → Bool
  | .named _ _ _ _ _ os og => os == size && og == signed
  | .member _ _ _ os og => os == size && og == signed
  | _ => true

/-- the enum classes a type's values are looked up in have the type's own width and signedness
(Python's `to_bytes` delegates to the looked-up instance) -/
def ownersAgree (p : Prim) : Bool := p.valid.all (itemOwnerAgrees p.size p.signed)

/-- (tables) … which holds for all 102 primitive types in `/repo` -/
theorem c16_owners_tables : Generated.allPrims.all ownersAgree = true := by decide +kernel

/-- so the byte form Python produces (with its delegation) is the declared-width encoding -/
theorem c16_toBytes_declared (p : Prim) (x : Int) (h : ownersAgree p = true) :
    p.toBytes x = intToBytes p.size x := by
  unfold Prim.toBytes Prim.wireOf
  cases hf : p.flavour <;> simp only []
  cases hg : p.getItem x with
  | none => rfl
  | some it =>
    have hmem : it ∈ p.valid := List.mem_of_find?_eq_some hg
    have := List.all_eq_true.mp h it hmem
    cases it <;> simp_all [itemOwnerAgrees]

/-! ### validity: membership in the declared set -/

/-- the declared set of a type, as a predicate on integers -/
def declared (p : Prim) (x : Int) : Prop :=
  ∃ it ∈ p.valid, match it with
    | .range lo hi => lo ≤ x ∧ x < hi
    | .named _ _ lo hi _ _ _ => lo ≤ x ∧ x < hi
    | .member _ _ v _ _ => x = v
    | .int v => x = v
    | .unknown _ => False

/-- a typed value is reported valid exactly when the integer belongs to the declared set —
for every integer, not only those representable in the width -/
theorem c16_valid_iff (p : Prim) (x : Int) : p.isValid x = true ↔ declared p x := by
  unfold Prim.isValid declared
  rw [List.any_eq_true]
  refine exists_congr fun it => and_congr_right fun _ => ?_
  cases it <;> simp [VItem.has]

def itemWithin (size : Nat) (signed : Bool) : VItem → Bool
  | .range lo hi => decide (hi ≤ lo) || (inRange size signed lo && inRange size signed (hi - 1))
  | .named _ _ lo hi _ _ _ => decide (hi ≤ lo) || (inRange size signed lo && inRange size signed (hi - 1))
  | .member _ _ v _ _ => inRange size signed v
  | .int v => inRange size signed v
  | .unknown _ => false

/-- (tables) every declared value of every type is representable in the type's width -/
theorem c16_declared_fit_tables :
    Generated.allPrims.all (fun p => p.valid.all (itemWithin p.size p.signed)) = true := by decide +kernel

/-- a non-empty interval whose ends are representable holds representable integers only -/
theorem inRange_interval {size : Nat} {signed : Bool} {lo hi x : Int}
    (hw : (decide (hi ≤ lo) || (inRange size signed lo && inRange size signed (hi - 1))) = true)
    (hh : (decide (lo ≤ x) && decide (x < hi)) = true) : inRange size signed x = true := by
  unfold inRange at *
  cases signed <;> simp_all <;> omega

/-- a valid value never overflows `to_bytes` -/
theorem c16_valid_fits (p : Prim) (x : Int) (ht : p.valid.all (itemWithin p.size p.signed) = true)
    (hv : p.isValid x = true) : inRange p.size p.signed x = true := by
  unfold Prim.isValid at hv
  rw [List.any_eq_true] at hv
  obtain ⟨it, hm, hh⟩ := hv
  have hw := List.all_eq_true.mp ht it hm
  cases it with
  | range lo hi => exact inRange_interval hw hh
  | named o b lo hi n os og => exact inRange_interval hw hh
  | member o n v os og =>
    simp only [VItem.has, decide_eq_true_eq] at hh
    subst hh; exact hw
  | int v =>
    simp only [VItem.has, decide_eq_true_eq] at hh
    subst hh; exact hw
  | unknown r => simp [VItem.has] at hh

/-! ### text form -/

/-- enumeration types: the text form is the name of the first declared member with that value
(aliases such as `SHA`/`SHA1` resolve to the first), `Type.None` when there is none -/
theorem c16_format_enum_member (p : Prim) (rc : Nat → Option String) (x : Int) (o n : String) (v : Int)
    (os : Nat) (og : Bool) (hf : p.flavour = .enum) (hm : p.byValue x = some (.member o n v os og)) :
    p.format rc x = p.name ++ "." ++ n := by
  simp [Prim.format, hf, hm]

/-- named handle ranges: range name plus the zero-padded hexadecimal offset -/
theorem c16_format_int_named (p : Prim) (rc : Nat → Option String) (x : Int) (o b : String) (lo hi : Int)
    (nib os : Nat) (og : Bool) (hf : p.flavour = .int) (hm : p.getItem x = some (.named o b lo hi nib os og)) :
    p.format rc x = o ++ "." ++ b ++ "." ++ hexPad (x - lo).toNat nib := by
  simp [Prim.format, hf, hm, VItem.fmt]

theorem c16_format_int_member (p : Prim) (rc : Nat → Option String) (x : Int) (o n : String) (v : Int)
    (os : Nat) (og : Bool) (hf : p.flavour = .int) (hm : p.getItem x = some (.member o n v os og)) :
    p.format rc x = o ++ "." ++ n := by
  simp [Prim.format, hf, hm, VItem.fmt]

/-- `hexPad` has at least the requested number of digits -/
theorem hexPad_length (n w : Nat) : w ≤ (hexPad n w).length := by
  unfold hexPad
  simp only [String.length_ofList, List.length_append, List.length_replicate]
  omega

/-! ### operators -/

def binOps : List String :=
  ["add", "sub", "mul", "truediv", "floordiv", "mod", "divmod", "pow", "lshift", "rshift", "and", "xor", "or"]
def cmpOps : List String := ["lt", "le", "eq", "ne", "gt", "ge"]

/-- what the Python data model means by each dunder: `__op__(self, other)` is `self ⟨op⟩ other`,
`__rop__(self, other)` is `other ⟨op⟩ self` -/
def expectedOps : List (String × String × String × Bool) :=
  [("__int__", "int", "self", true), ("__index__", "int", "self", true)] ++
  binOps.flatMap (fun o => [("__" ++ o ++ "__", o, "self_other", true), ("__r" ++ o ++ "__", o, "other_self", true)]) ++
  cmpOps.map (fun o => ("__" ++ o ++ "__", o, "self_other", true)) ++
  [("__hash__", "hash", "self", true), ("__str__", "str", "self", true), ("__repr__", "repr", "self", true)]

/-- (tables, from the source text of `numeric()`) every dunder the decorator installs applies the
plain-integer operator to `int(self)` and the other operand, in the operand order its name says;
none is missing, none is opaque -/
theorem c16_ops : Generated.numericOps = expectedOps := by decide +kernel

/-- non-vacuity -/
example : Generated.allPrims.length = 102 ∧ (Generated.P_TPM_HANDLE.isValid 0x40000001 = true) ∧
    (Generated.P_INT8.toBytes (-3) = [0xfd]) := by decide +kernel

end C16
