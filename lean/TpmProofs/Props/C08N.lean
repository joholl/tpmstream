import TpmProofs.WarnNC
import TpmProofs.Props.C06
import TpmProofs.Props.C08W
/-!
# C08 — warn mode never aborts with an internal error

`Props/C08W.lean` shows that no *size* error leaves a warn-mode decode and allows internal errors (the model's `crash`: an
AssertionError / TypeError / KeyError / IndexError / RuntimeError / NameError escaping from the package, or a loop that never
ends) as a possible outcome.  Here they are excluded by theorem (`TpmProofs/WarnNC.lean`), under the same
kernel-decided side conditions on the regenerated tables as for strict mode (`C06.c06_tables`, `C06.c06_msg_tables`):

* every non-union layout of /repo, EVERY byte string: the warn-mode decode never ends in an internal error;
* commands: likewise;
* responses — ANY command code (also none, also one without layouts), either flag — and streams: the only internal error is
  the `assert` that compares the caller's response-encryption flag with the response's own session attributes (the known finding,
  which strict mode shares).

The proof characterises the state after every successful warn-mode step directly (strict mode gets it from soundness; warn mode
accepts non-conforming input): the regions found are left, each charged exactly the bytes consumed — across reported overruns
(the skipped tail is charged to the enclosing regions), shortfalls (the padding is charged) and bad values — so `assert_done`
always finds its region, the session loop's bound is never hit (each completed session is charged ≥ 1 byte to its region),
and the stream loop terminates (`pos + |inp|` is conserved, each message consumes ≥ 1 byte); sessions decoded in warn mode still
carry the attribute word `is_parameter_encryption` looks up; an abandoned session area is `None`.

Together with `c08_no_escape_*`: whatever leaves a warn-mode decode is `depleted` (shown as the final warning), one of the two
value errors after which the layout is unknowable, or that one assertion.
-/
namespace C08

/-- **structures**: for every non-union layout of /repo and EVERY byte string, the warn-mode decode never ends in an internal error -/
theorem c08_warn_no_crash_type (t : Ty) (ht : t ∈ Generated.allTypes) (hu : t.isUnion = false) (tb : MsgTables) (x : List Byte) :
    ∀ c m, (marshalRun false tb (.ty t) x).outcome ≠ .crash c m := by
  intro c m h
  obtain ⟨hwf, htot, hok⟩ := C06.c06_type_ok ht hu
  obtain ⟨s, hs⟩ := crash_from_walker _ _ _ _ _ _ h
  exact runWalker_ncw_ty tb t hwf htot hok x c m s hs

/-- **commands**: every byte string decoded as a command in warn mode — no internal error -/
theorem c08_warn_no_crash_command (x : List Byte) : ∀ c m, (marshalRun false Generated.msgTables .command x).outcome ≠ .crash c m := by
  intro c m h
  obtain ⟨s, hs⟩ := crash_from_walker _ _ _ _ _ _ h
  exact runWalker_ncw_command Generated.msgTables C06.c06_msg_tables.1 x c m s hs

/-- **responses** (any command code — also none, also one without layouts — and either flag) and **streams**: the only internal
error a warn-mode decode can end in is the known assertion -/
theorem c08_warn_crash_msg (top : Top) (hm : ∀ t, top ≠ .ty t) (x : List Byte) (c m : String)
    (h : (marshalRun false Generated.msgTables top x).outcome = .crash c m) : isMismatch c m := by
  obtain ⟨s, hs⟩ := crash_from_walker _ _ _ _ _ _ h
  exact runWalker_ncxw Generated.msgTables C06.c06_msg_tables.1 top (fun t ht => absurd ht (hm t)) x c m s hs

/-- **what can leave a warn-mode decode of a message at all** (commands, responses, streams; every input): a result
(`done`, `silent`, `superfluous`), `depleted`, one of the two value errors after which the layout is unknowable, or the known
assertion — nothing else -/
theorem c08_warn_outcomes (top : Top) (hm : ∀ t, top ≠ .ty t) (x : List Byte) :
    match (marshalRun false Generated.msgTables top x).outcome with
    | .raised e _ => e.isValueErr = true
    | .crash c m => isMismatch c m
    | _ => True := by
  cases h : (marshalRun false Generated.msgTables top x).outcome with
  | raised e rem => exact c08_no_escape_msg top hm x e rem h
  | crash c m => exact c08_warn_crash_msg top hm x c m h
  | _ => trivial

/-- non-vacuity of the side conditions: the tables have layouts and command codes to speak about -/
example : 0 < (Generated.allTypes.filter fun t => !t.isUnion).length ∧ 0 < Generated.msgTables.cmdHandles.length := by decide +kernel

end C08
