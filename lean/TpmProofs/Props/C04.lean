import TpmProofs.DecodeOk
import TpmProofs.Props.C16
import TpmProofs.ShapePk
import TpmModel.Generated.Prims
import TpmModel.Generated.Types
import TpmModel.Generated.Cmd
import TpmProofs.Props.C07
/-!
# C04 — strict mode rejects exactly the inputs containing an out-of-range value
-/
namespace C04

/-- a primitive field inside regions with room: strict decoding raises `ValueConstraintViolatedError`
naming the field's path, declared type and the integer — with no event for it — exactly when the integer
is outside the declared set … -/
theorem c04_prim_reject (p : Prim) (path : Path) (bs rest : List Byte) (pos : Nat) (out : List (Nat × Event))
    (scs : List SC) (hlen : bs.length = p.size) (hroom : Room scs p.size) (hbad : p.isValid (p.ofBytes bs) = false) :
    readPrim true p path ⟨bs ++ rest, pos, out, scs⟩ =
      .error (.value path p.name (p.ofBytes bs), ⟨rest, pos + p.size, out, bump scs p.size⟩) := by
  unfold readPrim
  rw [bytesParsed_ok _ _ _ _ _ _ hroom]
  have := take_ok bs rest pos out (bump scs p.size)
  rw [hlen] at this
  simp [this, hbad]

/-- … and otherwise emits exactly one event carrying that integer -/
theorem c04_prim_accept (p : Prim) (path : Path) (bs rest : List Byte) (pos : Nat) (out : List (Nat × Event))
    (scs : List SC) (hlen : bs.length = p.size) (hroom : Room scs p.size) (hok : p.isValid (p.ofBytes bs) = true) :
    readPrim true p path ⟨bs ++ rest, pos, out, scs⟩ =
      .ok (.int p.name (p.ofBytes bs),
        ⟨rest, pos + p.size, out ++ [(pos + p.size, .marshal ⟨path, .named p.name false, some (p.ofBytes bs), p.name, p.size⟩)],
          bump scs p.size⟩) := by
  unfold readPrim
  rw [bytesParsed_ok _ _ _ _ _ _ hroom]
  have := take_ok bs rest pos out (bump scs p.size)
  rw [hlen] at this
  simp [this, hok, emitM, emit]

/-! ### first offender: every field a strict decode shows is valid for its declared type -/

/-- the primitive type of that class name in the regenerated table -/
def tablePrim (n : String) : Option Prim := Generated.allPrims.find? (·.name == n)

/-- what a shown field event says: its class is a primitive type of the table, the event's declared type and width are that
type's, and the value is in that type's declared set -/
def FieldOk (m : MEvent) : Prop :=
  ∃ p, tablePrim m.vclass = some p ∧ m.ty = .named p.name false ∧ m.width = p.size ∧ ∀ y, m.val = some y → p.isValid y = true

/-- (decidable side condition) the table's entry for this primitive's name is this primitive -/
def knownPrim (p : Prim) : Bool := decide (tablePrim p.name = some p)

theorem strict_link : PrimLink true knownPrim FieldOk := fun p hp σ x hv =>
  ⟨p, by simpa [knownPrim] using hp, rfl, rfl, fun y hy => by
    simp only [Option.some.injEq] at hy
    subst hy
    exact hv rfl⟩

/-- The one sweep that looks primitive types up in the table.  One evaluation for both halves: the kernel remembers what it
has evaluated, so each distinct primitive is looked up and compared once, however often it occurs. -/
theorem tables_prims_known :
    Generated.msgTables.pk (kn tablePrim) = true ∧ Generated.allTypes.all (Ty.pk (kn tablePrim)) = true := by
  decide +kernel

theorem tables_structure :
    Generated.msgTables.shapeOk (fun _ => true) = true ∧ Generated.allTypes.all (Ty.shapeOk fun _ => true) = true := by
  decide +kernel

theorem tables_shapeOk {pk : Prim → Bool} (h : ∀ p, kn tablePrim p = true → pk p = true) :
    Generated.msgTables.shapeOk pk = true ∧ Generated.allTypes.all (Ty.shapeOk pk) = true :=
  ⟨MsgTables.shapeOk_of_pk h _ tables_structure.1 tables_prims_known.1,
    List.all_eq_true.mpr fun t ht => Ty.shapeOk_of_pk h t (List.all_eq_true.mp tables_structure.2 t ht)
      (List.all_eq_true.mp tables_prims_known.2 t ht)⟩

/-- (tables) every primitive type used by any layout of `/repo` or by the message framing is the table's entry for its name
(and the structural side conditions of the path discipline hold) -/
theorem c04_tables :
    Generated.msgTables.shapeOk knownPrim = true ∧ Generated.allTypes.all (Ty.shapeOk knownPrim) = true :=
  tables_shapeOk fun _ h => h

/-- the whole trace of a decode over the tables of /repo, either mode, read as an event list: paths below the root, field
events as the link from the primitive table says -/
theorem trace_gd {abort : Bool} {okc : MEvent → Prop} (hpk : PrimLink abort knownPrim okc) (top : Top)
    (htop : ∀ t, top = .ty t → t ∈ Generated.allTypes) (x : List Byte) :
    GD okc rootPath ((stOf (runWalker abort Generated.msgTables top x)).out.map (·.2)) := by
  obtain ⟨new, ho, hgd⟩ := runWalker_gd abort hpk Generated.msgTables c04_tables.1 top
    (fun t ht => List.all_eq_true.mp c04_tables.2 t (htop t ht)) x
  rw [ho]
  exact hgd

/-- **first offender** (every layout of /repo, commands, responses, streams, EVERY input): every field event a strict decode
emits with a value carries a value that is valid for the primitive type the tables declare under the event's class name — the
walker validates before it emits and stops at the first failure.  So when strict decoding raises
`ValueConstraintViolatedError`, no field shown before it is an offender (and by C02 the fields shown tile the input up to the
offending one): the error is about the first out-of-range field in wire order, and no event is emitted for it
(`c04_prim_reject`, `c04_prim_error_is_invalid`). -/
theorem c04_shown_fields_valid (top : Top) (htop : ∀ t, top = .ty t → t ∈ Generated.allTypes) (x : List Byte) :
    ∀ ke ∈ (stOf (runWalker true Generated.msgTables top x)).out, ∀ m, ke.2 = .marshal m → m.val.isSome = true → FieldOk m := by
  intro ke hke m hm hv
  have : Event.marshal m ∈ (stOf (runWalker true Generated.msgTables top x)).out.map (·.2) := by
    rw [← hm]; exact List.mem_map_of_mem hke
  exact ((trace_gd strict_link top htop x).1 m this).2 hv

/-- the value error raised for a primitive field names that field's path, its declared type and the decoded integer,
and that integer is outside the declared set -/
theorem c04_prim_error_is_invalid (p : Prim) (path : Path) (s t : St) (pa : Path) (c : String) (x : Int)
    (h : readPrim true p path s = .error (.value pa c x, t)) : pa = path ∧ c = p.name ∧ p.isValid x = false := by
  obtain ⟨_, bs, _, _, hv, rfl, rfl, rfl⟩ := C07.readPrim_value_inv h
  exact ⟨rfl, rfl, hv⟩

end C04
