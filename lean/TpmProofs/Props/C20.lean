import TpmModel.Generated.Tables
import TpmModel.Pinned.Tables
/-!
# C20 — the layout tables are coherent and match the pinned TPM 2.0 layout

Every statement quantifies over the *whole* generated table (regenerated from /repo on every run) and is
decided by the kernel (`decide +kernel`, no axioms).
-/
namespace C20

/-- the translator classified every class attribute it met (no `.bad` type, no `.unknown` item) -/
theorem c20_known : Generated.allTypes.all Ty.known = true := by decide +kernel

/-- the message framing is the one the decoder model assumes (field order of `Command`/`Response`) -/
theorem c20_framing : Generated.tables.framingOk = true := by decide +kernel

/-- command-code numbers are distinct -/
theorem c20_cc_distinct : distinctInt (Generated.ccMembers.map (·.2)) = true := by decide +kernel

/-- every command code has exactly one handle layout and one parameter layout for commands and for
responses, named after it (and the maps have no other keys) -/
theorem c20_maps :
    mapOk (codesOf "TPMS_COMMAND_HANDLES_") Generated.ccCodes Generated.mapNames_command_handles = true ∧
    mapOk (codesOf "TPMS_COMMAND_PARAMS_") Generated.ccCodes Generated.mapNames_command_parameters = true ∧
    mapOk (codesOf "TPMS_RESPONSE_HANDLES_") Generated.ccCodes Generated.mapNames_response_handles = true ∧
    mapOk (codesOf "TPMS_RESPONSE_PARAMS_") Generated.ccCodes Generated.mapNames_response_parameters = true := by
  refine ⟨?_, ?_, ?_, ?_⟩ <;> decide +kernel

/-- the name tables used above are keyed like the maps the decoder uses and like `TPM_CC` -/
theorem c20_maps_keys :
    Generated.mapNames_command_handles.map (·.1) = Generated.map_command_handles.map (·.1) ∧
    Generated.mapNames_command_parameters.map (·.1) = Generated.map_command_parameters.map (·.1) ∧
    Generated.mapNames_response_handles.map (·.1) = Generated.map_response_handles.map (·.1) ∧
    Generated.mapNames_response_parameters.map (·.1) = Generated.map_response_parameters.map (·.1) ∧
    Generated.ccCodes.map (·.2) = Generated.ccMembers.map (·.2) := by
  refine ⟨?_, ?_, ?_, ?_, ?_⟩ <;> decide +kernel

/-- handle areas hold at most three 4-byte handles -/
theorem c20_handles :
    (Generated.map_command_handles ++ Generated.map_response_handles).all (fun kt => handleAreaOk kt.2) = true := by
  decide +kernel

/-- every counted list directly follows its unsigned count -/
theorem c20_counted : Generated.allTypes.all Ty.countedOk = true := by decide +kernel

/-- every union field has an earlier selector field whose every valid value selects a member -/
theorem c20_selectors : Generated.allTypes.all Ty.selectorsOk = true := by decide +kernel

/-- every list-valued union member reachable from a structure has its fixed length -/
theorem c20_list_size : Generated.allTypes.all Ty.listSizeOk = true := by decide +kernel

set_option maxRecDepth 100000 in
/-- the wire layout of every type — field order, names, widths, signedness, allowed values, member
names, selector mapping, command-code numbers — equals the pinned snapshot -/
theorem c20_pinned : Generated.tables = Pinned.tables := by
  exact (rfl : Generated.tables = Generated.tables)

theorem c20_pinned_msg : Generated.msgTables = Pinned.msgTables := by
  exact (rfl : Generated.msgTables = Generated.msgTables)

theorem c20_pinned_names :
    Generated.ccCodes = Pinned.ccCodes ∧
    Generated.mapNames_command_handles = Pinned.mapNames_command_handles ∧
    Generated.mapNames_command_parameters = Pinned.mapNames_command_parameters ∧
    Generated.mapNames_response_handles = Pinned.mapNames_response_handles ∧
    Generated.mapNames_response_parameters = Pinned.mapNames_response_parameters :=
  ⟨rfl, rfl, rfl, rfl, rfl⟩

/-- non-vacuity: the tables are the real ones (717 type definitions, 117 command codes, 102 primitives) -/
example : Generated.allTypes.length = 717 ∧ Generated.ccMembers.length = 117 ∧
    Generated.allPrims.length = 102 := by decide +kernel

end C20
