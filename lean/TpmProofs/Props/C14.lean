import TpmModel.Print
/-!
# C14 — the printers show every event and every byte exactly once, in order

`prettyRows` is the model of `Pretty.unmarshal` (tied to the code by a both-mode differential run over the
event streams of well-formed and malformed inputs).  Theorems below hold for EVERY event list on which
the printer does not fail, and totality is shown for every list whose value events resolve to a known
primitive class and whose byte-buffer children carry values (which is what the decoder emits).
-/
def Row.hex : Row → List Byte
  | .field _ _ _ h _ => h
  | .info _ => []

namespace C14

def rowsHex (rows : List Row) : List Byte := rows.flatMap Row.hex

/-- the event that ended a list fold, as a list -/
def nxtL : Option MEvent → List Event
  | some c => [.marshal c]
  | none => []
@[simp] theorem nxtL_none : nxtL none = [] := rfl
@[simp] theorem nxtL_some (c : MEvent) : nxtL (some c) = [.marshal c] := rfl

/-- bytes of one event as `Binary.unmarshal` gives them (nothing for `...` events and warnings) -/
def evBytesE (env : PrintEnv) : Event → List Byte
  | .marshal m => match eventBytes env m with | .ok bs => bs | .error _ => []
  | .warning _ => []

def streamBytes (env : PrintEnv) (evs : List Event) : List Byte := evs.flatMap (evBytesE env)

@[simp] theorem rowsHex_nil : rowsHex [] = [] := rfl
theorem rowsHex_append (a b : List Row) : rowsHex (a ++ b) = rowsHex a ++ rowsHex b := by simp [rowsHex]
theorem rowsHex_cons (r : Row) (rs : List Row) : rowsHex (r :: rs) = r.hex ++ rowsHex rs := by simp [rowsHex]

theorem streamBytes_append (env : PrintEnv) (a b : List Event) : streamBytes env (a ++ b) = streamBytes env a ++ streamBytes env b := by
  simp [streamBytes]

theorem streamBytes_cons (env : PrintEnv) (e : Event) (r : List Event) : streamBytes env (e :: r) = evBytesE env e ++ streamBytes env r := by
  simp [streamBytes]

theorem attrRows_hex (env : PrintEnv) (m : MEvent) : rowsHex (if hasAttrs env m then attrRows env m else []) = [] := by
  unfold attrRows
  split
  · split
    · simp [rowsHex, Row.hex, List.flatMap_map]
    · rfl
  · rfl

theorem parent_bytes (env : PrintEnv) (m : MEvent) (h : isListParent m = true) : evBytesE env (.marshal m) = [] := by
  unfold isListParent at h
  have hv : m.val = none := by
    split at h
    · rename_i hv; simpa using hv
    · simp at h
  simp [evBytesE, eventBytes, hv]

def nWarn (evs : List Event) : Nat :=
  evs.countP fun e => match e with
    | .warning _ => true
    | .marshal _ => false

theorem nWarn_append (a b : List Event) : nWarn (a ++ b) = nWarn a + nWarn b := by simp [nWarn]
theorem nWarn_nxtL (n : Option MEvent) : nWarn (nxtL n) = 0 := by cases n <;> simp [nWarn, nxtL]
theorem nWarn_cons_w (w : Err) (r : List Event) : nWarn (.warning w :: r) = nWarn r + 1 := by simp [nWarn]
theorem nWarn_cons_m (c : MEvent) (r : List Event) : nWarn (.marshal c :: r) = nWarn r := by simp [nWarn]

/-! ### blocks: which rows stand for which events

The stream is cut into blocks by a function of the events alone (`blocksOf`): a warning, a byte-buffer parent with the run of
children and warnings that follows it, another list parent with its run, or any other event.  Whenever the printer returns rows
they are the rendering of the blocks in order (`prettyGo_blocks`); what the hex column and the info rows hold is read off the
rendering. -/

inductive Block where
  | info (w : Err)
  | plain (m : MEvent)
  | buffer (p : MEvent) (run : List Event)
  | elems (p : MEvent) (run : List Event)

def Block.events : Block → List Event
  | .info w => [.warning w]
  | .plain m => [.marshal m]
  | .buffer p run => .marshal p :: run
  | .elems p run => .marshal p :: run

/-- events that belong to the run after a list parent: warnings, and marshal events with the parent's path and name -/
def inRun (parent : Path) : Event → Bool
  | .warning _ => true
  | .marshal c => isChild parent c.path

def blocksGo : Nat → List Event → List Block
  | 0, _ => []
  | _+1, [] => []
  | f+1, .warning w :: rest => .info w :: blocksGo f rest
  | f+1, .marshal m :: rest =>
    if isListParent m then
      let run := rest.takeWhile (inRun m.path)
      let b := if m.ty = .listOf "BYTE" then Block.buffer m run else Block.elems m run
      match rest.dropWhile (inRun m.path) with
      | .marshal c :: rest' => b :: .plain c :: blocksGo f rest'
      | _ => [b]
    else .plain m :: blocksGo f rest

def blocksOf (evs : List Event) : List Block := blocksGo (evs.length + 1) evs

/-- the row of an event shown on its own -/
def plainRow (env : PrintEnv) (m : MEvent) : Row :=
  .field (typeNameOf m.ty) (m.path.length - 1) ("." ++ PathNode.last m.path) (evBytesE env (.marshal m)) (valueText env m)

/-- the row of a byte buffer -/
def bufRow (p : MEvent) (buf : List Byte) : Row :=
  .field (typeNameOf p.ty) (p.path.length - 1) ("." ++ PathNode.last p.path) buf (printable buf)

def kidsOf (run : List Event) : List MEvent :=
  run.filterMap fun e => match e with
    | .marshal c => some c
    | .warning _ => none

/-- one row per element event and per warning of a run, in order -/
def renderRun (env : PrintEnv) : List Event → Nat → List Row
  | [], _ => []
  | .warning _ :: r, k => .info k :: renderRun env r (k + 1)
  | .marshal c :: r, k => plainRow env c :: renderRun env r k

def Block.render (env : PrintEnv) (k : Nat) : Block → List Row
  | .info _ => [.info k]
  | .plain m => plainRow env m :: (if hasAttrs env m then attrRows env m else [])
  | .buffer p run => bufRow p (streamBytes env run) :: (List.range' k (nWarn run)).map Row.info
  | .elems p run => if (kidsOf run).isEmpty then renderRun env run k ++ [plainRow env p] else renderRun env run k

def render (env : PrintEnv) : Nat → List Block → List Row
  | _, [] => []
  | k, b :: bs => b.render env k ++ render env (k + nWarn b.events) bs

/-- the parent of a list block is a list parent, as in every block `blocksGo` makes -/
def Block.wf : Block → Prop
  | .buffer p _ => isListParent p = true
  | .elems p _ => isListParent p = true
  | _ => True

theorem blocksGo_wf : ∀ (fuel : Nat) (evs : List Event), ∀ b ∈ blocksGo fuel evs, b.wf
  | 0, _, b, hb => by simp [blocksGo] at hb
  | _+1, [], b, hb => by simp [blocksGo] at hb
  | f+1, .warning w :: rest, b, hb => by
    simp only [blocksGo, List.mem_cons] at hb
    rcases hb with rfl | hb
    · trivial
    · exact blocksGo_wf f rest b hb
  | f+1, .marshal m :: rest, b, hb => by
    simp only [blocksGo] at hb
    split at hb
    · rename_i hlp
      have hb0 : ∀ run, (if m.ty = .listOf "BYTE" then Block.buffer m run else Block.elems m run).wf := by
        intro run; split <;> exact hlp
      split at hb
      · simp only [List.mem_cons] at hb
        rcases hb with rfl | rfl | hb
        · exact hb0 _
        · trivial
        · exact blocksGo_wf f _ b hb
      · simp only [List.mem_singleton] at hb
        subst hb
        exact hb0 _
    · simp only [List.mem_cons] at hb
      rcases hb with rfl | hb
      · trivial
      · exact blocksGo_wf f rest b hb

/-! ### the rows of a successful print are the rendering of the blocks -/

theorem prettyRow_eq {env : PrintEnv} {m : MEvent} {r : Row} (h : prettyRow env m = .ok r) : r = plainRow env m := by
  unfold prettyRow at h
  cases hb : eventBytes env m with
  | error e => simp [hb, Except.map] at h
  | ok bs => simp only [hb, Except.map, Except.ok.injEq] at h; subst h; simp [plainRow, evBytesE, hb]

/-- **indentation and value column**: a row's indentation is the depth of its event's path, its value column the
value's text form (empty for `...`), its type column the declared type, its name the last path node -/
theorem c14_row_columns {env : PrintEnv} {m : MEvent} {r : Row} (h : prettyRow env m = .ok r) :
    ∃ bs, r = .field (typeNameOf m.ty) (m.path.length - 1) ("." ++ PathNode.last m.path) bs (valueText env m) :=
  ⟨_, prettyRow_eq h⟩

theorem takeWhile_inRun_w (p : Path) (w : Err) (evs : List Event) :
    (Event.warning w :: evs).takeWhile (inRun p) = .warning w :: evs.takeWhile (inRun p) := by
  simp [List.takeWhile_cons, inRun]

theorem dropWhile_inRun_w (p : Path) (w : Err) (evs : List Event) :
    (Event.warning w :: evs).dropWhile (inRun p) = evs.dropWhile (inRun p) := by
  simp [List.dropWhile_cons, inRun]

theorem takeWhile_inRun_child {p : Path} {c : MEvent} (hc : isChild p c.path = true) (evs : List Event) :
    (Event.marshal c :: evs).takeWhile (inRun p) = .marshal c :: evs.takeWhile (inRun p) := by
  simp [inRun, hc]

theorem dropWhile_inRun_child {p : Path} {c : MEvent} (hc : isChild p c.path = true) (evs : List Event) :
    (Event.marshal c :: evs).dropWhile (inRun p) = evs.dropWhile (inRun p) := by
  simp [inRun, hc]

theorem takeWhile_inRun_other {p : Path} {c : MEvent} (hc : ¬ isChild p c.path = true) (evs : List Event) :
    (Event.marshal c :: evs).takeWhile (inRun p) = [] := by
  simp [inRun, hc]

theorem dropWhile_inRun_other {p : Path} {c : MEvent} (hc : ¬ isChild p c.path = true) (evs : List Event) :
    (Event.marshal c :: evs).dropWhile (inRun p) = .marshal c :: evs := by
  simp [inRun, hc]

/-- what a list fold returns: the rows of the run (the events up to the first marshal event that is no child), that
event if there is one, and what follows it -/
theorem foldBytes_rows (env : PrintEnv) (parent : MEvent) : ∀ (evs : List Event) (k : Nat) (buf : List Byte)
    (infos rows : List Row) (nxt : Option MEvent) (rest : List Event) (k' : Nat),
    foldBytes env parent evs k buf infos = .ok (rows, nxt, rest, k') →
    rows = bufRow parent (buf ++ streamBytes env (evs.takeWhile (inRun parent.path))) ::
        (infos.reverse ++ (List.range' k (nWarn (evs.takeWhile (inRun parent.path)))).map Row.info) ∧
      evs.dropWhile (inRun parent.path) = nxtL nxt ++ rest ∧ (nxt = none → rest = []) ∧
      k' = k + nWarn (evs.takeWhile (inRun parent.path)) := by
  intro evs
  induction evs with
  | nil =>
    intro k buf infos rows nxt rest k' h
    simp only [foldBytes, Except.ok.injEq, Prod.mk.injEq] at h
    obtain ⟨rfl, rfl, rfl, rfl⟩ := h
    simp [bufRow, streamBytes, nWarn, nxtL]
  | cons e evs ih =>
    intro k buf infos rows nxt rest k' h
    cases e with
    | warning w =>
      simp only [foldBytes] at h
      obtain ⟨h1, h2, h3, h4⟩ := ih _ _ _ _ _ _ _ h
      rw [takeWhile_inRun_w, dropWhile_inRun_w, nWarn_cons_w]
      refine ⟨?_, h2, h3, by omega⟩
      rw [h1]
      simp [streamBytes, evBytesE, List.range'_succ]
    | marshal c =>
      simp only [foldBytes] at h
      split at h
      · rename_i hc
        cases hb : eventBytes env c with
        | error e => simp [hb] at h
        | ok bs =>
          cases hv : c.val with
          | none => simp [hb, hv] at h
          | some x =>
            simp only [hb, hv] at h
            obtain ⟨h1, h2, h3, h4⟩ := ih _ _ _ _ _ _ _ h
            rw [takeWhile_inRun_child hc, dropWhile_inRun_child hc, nWarn_cons_m]
            refine ⟨?_, h2, h3, h4⟩
            rw [h1]
            simp [streamBytes, evBytesE, hb, List.append_assoc]
      · rename_i hc
        simp only [Except.ok.injEq, Prod.mk.injEq] at h
        obtain ⟨rfl, rfl, rfl, rfl⟩ := h
        rw [takeWhile_inRun_other hc, dropWhile_inRun_other hc]
        simp [bufRow, streamBytes, nWarn, nxtL]

/-- how `foldElems` ends: a list that showed no element is closed by its parent's own row -/
theorem elemsEnd_rows {env : PrintEnv} {parent : MEvent} {isEmpty : Bool} {acc rows : List Row} {n nxt : Option MEvent}
    {r rest : List Event} {k k' : Nat}
    (h : (if isEmpty then (prettyRow env parent).map fun p => ((p :: acc).reverse, n, r, k) else .ok (acc.reverse, n, r, k)) =
      .ok (rows, nxt, rest, k')) :
    rows = acc.reverse ++ (if isEmpty then [plainRow env parent] else []) ∧ nxt = n ∧ rest = r ∧ k' = k := by
  split at h
  · rename_i he
    cases hr : prettyRow env parent with
    | error e => simp [hr, Except.map] at h
    | ok p =>
      simp only [hr, Except.map, Except.ok.injEq, Prod.mk.injEq] at h
      obtain ⟨rfl, rfl, rfl, rfl⟩ := h
      simp [he, prettyRow_eq hr]
  · rename_i he
    simp only [Except.ok.injEq, Prod.mk.injEq] at h
    obtain ⟨rfl, rfl, rfl, rfl⟩ := h
    simp [he]

theorem foldElems_rows (env : PrintEnv) (parent : MEvent) : ∀ (evs : List Event) (k : Nat) (isEmpty : Bool)
    (acc rows : List Row) (nxt : Option MEvent) (rest : List Event) (k' : Nat),
    foldElems env parent evs k isEmpty acc = .ok (rows, nxt, rest, k') →
    rows = acc.reverse ++ renderRun env (evs.takeWhile (inRun parent.path)) k ++
        (if isEmpty && (kidsOf (evs.takeWhile (inRun parent.path))).isEmpty then [plainRow env parent] else []) ∧
      evs.dropWhile (inRun parent.path) = nxtL nxt ++ rest ∧ (nxt = none → rest = []) ∧
      k' = k + nWarn (evs.takeWhile (inRun parent.path)) := by
  intro evs
  induction evs with
  | nil =>
    intro k isEmpty acc rows nxt rest k' h
    simp only [foldElems] at h
    obtain ⟨rfl, rfl, rfl, rfl⟩ := elemsEnd_rows h
    simp [renderRun, kidsOf, nWarn, nxtL]
  | cons e evs ih =>
    intro k isEmpty acc rows nxt rest k' h
    cases e with
    | warning w =>
      simp only [foldElems] at h
      obtain ⟨h1, h2, h3, h4⟩ := ih _ _ _ _ _ _ _ h
      rw [takeWhile_inRun_w, dropWhile_inRun_w, nWarn_cons_w]
      refine ⟨?_, h2, h3, by omega⟩
      rw [h1]
      simp [renderRun, kidsOf]
    | marshal c =>
      simp only [foldElems] at h
      split at h
      · rename_i hc
        cases hr : prettyRow env c with
        | error e => simp [hr] at h
        | ok r =>
          simp only [hr] at h
          obtain ⟨h1, h2, h3, h4⟩ := ih _ _ _ _ _ _ _ h
          rw [takeWhile_inRun_child hc, dropWhile_inRun_child hc, nWarn_cons_m]
          refine ⟨?_, h2, h3, h4⟩
          rw [h1]
          simp [renderRun, kidsOf, prettyRow_eq hr]
      · rename_i hc
        rw [takeWhile_inRun_other hc, dropWhile_inRun_other hc]
        obtain ⟨rfl, rfl, rfl, rfl⟩ := elemsEnd_rows h
        simp [renderRun, kidsOf, nWarn, nxtL]

theorem listBlock_events (m : MEvent) (run : List Event) :
    (if m.ty = .listOf "BYTE" then Block.buffer m run else Block.elems m run).events = .marshal m :: run := by
  split <;> rfl

theorem foldList_rows (env : PrintEnv) (m : MEvent) (rest : List Event) (k : Nat) (frows : List Row) (nxt : Option MEvent)
    (rest' : List Event) (k' : Nat) (h : foldList env m rest k = .ok (frows, nxt, rest', k')) :
    frows = (if m.ty = .listOf "BYTE" then Block.buffer m (rest.takeWhile (inRun m.path))
        else Block.elems m (rest.takeWhile (inRun m.path))).render env k ∧
      rest.dropWhile (inRun m.path) = nxtL nxt ++ rest' ∧ (nxt = none → rest' = []) ∧
      k' = k + nWarn (rest.takeWhile (inRun m.path)) := by
  unfold foldList at h
  split at h
  · rename_i e heq
    obtain ⟨h1, h2⟩ := foldBytes_rows env m rest k [] [] frows nxt rest' k' h
    refine ⟨?_, h2⟩
    rw [if_pos heq, h1]
    simp [Block.render]
  · rename_i hne
    obtain ⟨h1, h2⟩ := foldElems_rows env m rest k true [] frows nxt rest' k' h
    refine ⟨?_, h2⟩
    rw [if_neg hne, h1]
    simp only [Block.render, List.reverse_nil, List.nil_append, Bool.true_and]
    split <;> simp

theorem render_cons (env : PrintEnv) (k : Nat) (b : Block) (bs : List Block) :
    render env k (b :: bs) = b.render env k ++ render env (k + nWarn b.events) bs := rfl

theorem prettyGo_blocks (env : PrintEnv) : ∀ (fuel : Nat) (evs : List Event) (k : Nat) (rows : List Row),
    prettyGo env fuel evs k = .ok rows →
    rows = render env k (blocksGo fuel evs) ∧ (blocksGo fuel evs).flatMap Block.events = evs := by
  intro fuel
  induction fuel with
  | zero => intro evs k rows h; simp [prettyGo] at h
  | succ n ih =>
    intro evs k rows h
    cases evs with
    | nil =>
      simp only [prettyGo, Except.ok.injEq] at h
      subst h; simp [blocksGo, render]
    | cons e rest =>
      cases e with
      | warning w =>
        simp only [prettyGo] at h
        cases hg : prettyGo env n rest (k + 1) with
        | error e => simp [hg, Except.map] at h
        | ok rs =>
          simp only [hg, Except.map, Except.ok.injEq] at h
          subst h
          obtain ⟨rfl, ih2⟩ := ih rest (k + 1) rs hg
          simp [blocksGo, render_cons, Block.render, Block.events, nWarn, ih2]
      | marshal m =>
        simp only [prettyGo] at h
        split at h
        · rename_i hlp
          cases hf : foldList env m rest k with
          | error e => simp [hf] at h
          | ok res =>
            obtain ⟨frows, nxt, rest', k'⟩ := res
            obtain ⟨rfl, hd, h3, rfl⟩ := foldList_rows env m rest k frows nxt rest' k' hf
            have h2 := List.takeWhile_append_dropWhile (p := inRun m.path) (l := rest)
            rw [hd] at h2
            simp only [hf] at h
            simp only [blocksGo, hlp, if_true, hd]
            cases nxt with
            | none =>
              simp only [Except.ok.injEq] at h
              subst h
              obtain rfl := h3 rfl
              have h2' : rest.takeWhile (inRun m.path) = rest := by simpa [nxtL] using h2
              simp [nxtL, render, listBlock_events, h2']
            | some c =>
              simp only [] at h
              cases hrw : prettyRow env c with
              | error e => simp [hrw] at h
              | ok r =>
                cases hg : prettyGo env n rest' (k + nWarn (rest.takeWhile (inRun m.path))) with
                | error e => simp [hrw, hg, Except.map] at h
                | ok rs =>
                  simp only [hrw, hg, Except.map, Except.ok.injEq] at h
                  subst h
                  obtain ⟨rfl, ih2⟩ := ih rest' _ rs hg
                  have h2' : rest.takeWhile (inRun m.path) ++ .marshal c :: rest' = rest := by simpa [nxtL] using h2
                  simp only [nxtL, List.singleton_append, render_cons, List.flatMap_cons, listBlock_events, nWarn_cons_m]
                  simp [Block.render, Block.events, prettyRow_eq hrw, nWarn, ih2, h2']
        · rename_i hlp
          cases hrw : prettyRow env m with
          | error e => simp [hrw] at h
          | ok r =>
            cases hg : prettyGo env n rest k with
            | error e => simp [hrw, hg, Except.map] at h
            | ok rs =>
              simp only [hrw, hg, Except.map, Except.ok.injEq] at h
              subst h
              obtain ⟨rfl, ih2⟩ := ih rest k rs hg
              simp [blocksGo, hlp, render_cons, Block.render, Block.events, prettyRow_eq hrw, nWarn, ih2]

theorem renderRun_hex (env : PrintEnv) : ∀ (run : List Event) (k : Nat), rowsHex (renderRun env run k) = streamBytes env run
  | [], _ => rfl
  | .warning _ :: r, k => by simp [renderRun, rowsHex_cons, Row.hex, streamBytes_cons, evBytesE, renderRun_hex env r]
  | .marshal c :: r, k => by simp [renderRun, rowsHex_cons, plainRow, Row.hex, streamBytes_cons, renderRun_hex env r]

theorem infoRows_hex (l : List Nat) : rowsHex (l.map Row.info) = [] := by
  simp [rowsHex, List.flatMap_map, Row.hex]

theorem Block.render_hex (env : PrintEnv) (k : Nat) : ∀ (b : Block), b.wf → rowsHex (b.render env k) = streamBytes env b.events
  | .info _, _ => rfl
  | .plain m, _ => by simp [Block.render, rowsHex_cons, plainRow, Row.hex, attrRows_hex, Block.events, streamBytes]
  | .buffer p run, hp => by
    simp [Block.render, rowsHex_cons, bufRow, Row.hex, infoRows_hex, Block.events, streamBytes_cons, parent_bytes env p hp]
  | .elems p run, hp => by
    have hrow : (plainRow env p).hex = [] := parent_bytes env p hp
    simp only [Block.render, Block.events, streamBytes_cons, parent_bytes env p hp, List.nil_append]
    split <;> simp [rowsHex_append, rowsHex_cons, renderRun_hex, hrow]

theorem render_hex (env : PrintEnv) : ∀ (bs : List Block) (k : Nat), (∀ b ∈ bs, b.wf) →
    rowsHex (render env k bs) = streamBytes env (bs.flatMap Block.events)
  | [], _, _ => rfl
  | b :: bs, k, h => by
    rw [render_cons, rowsHex_append, List.flatMap_cons, streamBytes_append, b.render_hex env k (h b (List.mem_cons_self ..)),
      render_hex env bs _ fun x hx => h x (List.mem_cons_of_mem _ hx)]

/-- **hex column**: whenever the pretty printer succeeds, the hex column concatenated over all rows is exactly
the concatenation of the re-encoded events (`Binary.unmarshal`), i.e. the bytes of the decoded fields — every
byte shown exactly once, in order -/
theorem c14_hex (env : PrintEnv) : ∀ (fuel : Nat) (evs : List Event) (k : Nat) (rows : List Row),
    prettyGo env fuel evs k = .ok rows → rowsHex rows = streamBytes env evs := by
  intro fuel evs k rows h
  obtain ⟨h1, h2⟩ := prettyGo_blocks env fuel evs k rows h
  rw [h1, render_hex env _ k (blocksGo_wf fuel evs), h2]

end C14

namespace C14

theorem c14_hex_top (env : PrintEnv) (evs : List Event) (rows : List Row) (h : prettyRows env evs = .ok rows) :
    rowsHex rows = streamBytes env evs := c14_hex env _ evs 0 rows h

/-- a value event resolves to a known primitive class -/
def Resolves (env : PrintEnv) : Event → Prop
  | .marshal m => m.val = none ∨ ∃ p, env.prim m.vclass = some p
  | .warning _ => True

/-- what the decoder emits: every value event has a known class, and the events that directly follow a byte-buffer parent as
its children are value events -/
structure Shaped (env : PrintEnv) (evs : List Event) : Prop where
  resolves : ∀ e ∈ evs, Resolves env e
  kids : kidsOk evs = true

theorem eventBytes_ok {env : PrintEnv} {m : MEvent} (h : Resolves env (.marshal m)) : ∃ bs, eventBytes env m = .ok bs := by
  unfold eventBytes
  cases hv : m.val with
  | none => exact ⟨[], rfl⟩
  | some x =>
    rcases h with h | ⟨p, hp⟩
    · simp [hv] at h
    · exact ⟨p.toBytes x, by simp [hp]⟩

theorem prettyRow_ok {env : PrintEnv} {m : MEvent} (h : Resolves env (.marshal m)) : ∃ r, prettyRow env m = .ok r := by
  obtain ⟨bs, hb⟩ := eventBytes_ok h
  unfold prettyRow
  rw [hb]
  exact ⟨_, rfl⟩

theorem foldBytes_total (env : PrintEnv) (parent : MEvent) : ∀ (evs : List Event) (k : Nat) (buf : List Byte) (infos : List Row),
    (∀ e ∈ evs, Resolves env e) → bytesRun parent.path evs = true →
    ∃ r, foldBytes env parent evs k buf infos = .ok r := by
  intro evs
  induction evs with
  | nil => intro k buf infos _ _; exact ⟨_, rfl⟩
  | cons e rest ih =>
    intro k buf infos hr hk
    have hr' : ∀ e ∈ rest, Resolves env e := fun x hx => hr x (by simp [hx])
    cases e with
    | warning w => simp only [foldBytes]; exact ih _ _ _ hr' (by simpa [bytesRun] using hk)
    | marshal c =>
      simp only [foldBytes]
      split
      · rename_i hc
        obtain ⟨bs, hb⟩ := eventBytes_ok (hr (.marshal c) (by simp))
        simp only [bytesRun, hc, if_true, Bool.and_eq_true] at hk
        cases hcv : c.val with
        | none => rw [hcv] at hk; simp at hk
        | some x => simp only [hb]; exact ih _ _ _ hr' hk.2
      · exact ⟨_, rfl⟩

theorem foldElems_total (env : PrintEnv) (parent : MEvent) (hp : Resolves env (.marshal parent)) : ∀ (evs : List Event) (k : Nat) (isEmpty : Bool)
    (acc : List Row), (∀ e ∈ evs, Resolves env e) → ∃ r, foldElems env parent evs k isEmpty acc = .ok r := by
  obtain ⟨pr, hpr⟩ := prettyRow_ok hp
  intro evs
  induction evs with
  | nil =>
    intro k isEmpty acc _
    simp only [foldElems]
    split
    · rw [hpr]; exact ⟨_, rfl⟩
    · exact ⟨_, rfl⟩
  | cons e rest ih =>
    intro k isEmpty acc hr
    have hr' : ∀ e ∈ rest, Resolves env e := fun x hx => hr x (by simp [hx])
    cases e with
    | warning w => simp only [foldElems]; exact ih _ _ _ hr'
    | marshal c =>
      simp only [foldElems]
      split
      · obtain ⟨r, hrw⟩ := prettyRow_ok (hr (.marshal c) (by simp))
        simp only [hrw]; exact ih _ _ _ hr'
      · split
        · rw [hpr]; exact ⟨_, rfl⟩
        · exact ⟨_, rfl⟩

/-- the list fold returns a suffix of what it was given (so the printer makes progress) and keeps the stream's
events: the next event and the rest are events of the stream -/
theorem fold_suffix (env : PrintEnv) (m : MEvent) (rest : List Event) (k : Nat) (frows : List Row) (nxt : Option MEvent)
    (rest' : List Event) (k' : Nat) (h : foldList env m rest k = .ok (frows, nxt, rest', k')) :
    rest'.length ≤ rest.length ∧ (∀ e ∈ rest', e ∈ rest) ∧ (∀ c, nxt = some c → .marshal c ∈ rest) ∧
      ∃ consumed, rest = consumed ++ nxtL nxt ++ rest' := by
  obtain ⟨_, hd, _, _⟩ := foldList_rows env m rest k frows nxt rest' k' h
  have h1 : rest = rest.takeWhile (inRun m.path) ++ nxtL nxt ++ rest' := by
    rw [List.append_assoc, ← hd, List.takeWhile_append_dropWhile]
  refine ⟨?_, ?_, ?_, _, h1⟩
  · have := congrArg List.length h1
    simp only [List.length_append] at this
    omega
  · intro e he; rw [h1]; simp [he]
  · intro c hc; subst hc; rw [h1]; simp

theorem kidsOk_suffix : ∀ (a b : List Event), kidsOk (a ++ b) = true → kidsOk b = true
  | [], b, h => h
  | .warning _ :: a, b, h => kidsOk_suffix a b (by simpa [kidsOk] using h)
  | .marshal p :: a, b, h => kidsOk_suffix a b (by
      simp only [List.cons_append, kidsOk, Bool.and_eq_true] at h
      exact h.2)

/-- **termination without error**: on every shaped event stream the pretty printer returns rows -/
theorem c14_total (env : PrintEnv) : ∀ (fuel : Nat) (evs : List Event) (k : Nat), evs.length < fuel →
    (∀ e ∈ evs, Resolves env e) → kidsOk evs = true →
    ∃ rows, prettyGo env fuel evs k = .ok rows := by
  intro fuel
  induction fuel with
  | zero => intro evs k h; omega
  | succ n ih =>
    intro evs k hlen hr hk
    cases evs with
    | nil => exact ⟨[], rfl⟩
    | cons e rest =>
      have hr' : ∀ e ∈ rest, Resolves env e := fun x hx => hr x (by simp [hx])
      have hl' : rest.length < n := by simp at hlen; omega
      cases e with
      | warning w =>
        obtain ⟨rs, h⟩ := ih rest (k + 1) hl' hr' (by simpa [kidsOk] using hk)
        simp only [prettyGo, h]
        exact ⟨_, rfl⟩
      | marshal m =>
        simp only [kidsOk, Bool.and_eq_true] at hk
        simp only [prettyGo]
        split
        · -- list parent
          have hfold : ∃ r, foldList env m rest k = .ok r := by
            unfold foldList
            split
            · rename_i hty
              exact foldBytes_total env m rest k [] [] hr' (by simpa [hty] using hk.1)
            · exact foldElems_total env m (hr (.marshal m) (by simp)) rest k true [] hr'
          obtain ⟨⟨frows, nxt, rest', k'⟩, hf⟩ := hfold
          obtain ⟨hlen', hsub, hnxt, consumed, hsplit⟩ := fold_suffix env m rest k frows nxt rest' k' hf
          simp only [hf]
          cases nxt with
          | none => exact ⟨_, rfl⟩
          | some c =>
            simp only []
            obtain ⟨r, hrw⟩ := prettyRow_ok (hr' (.marshal c) (hnxt c rfl))
            obtain ⟨rs, hgo⟩ := ih rest' k' (by omega) (fun e he => hr' e (hsub e he))
              (kidsOk_suffix (consumed ++ nxtL (some c)) rest' (by rw [← hsplit]; exact hk.2))
            simp only [hrw, hgo]
            exact ⟨_, rfl⟩
        · obtain ⟨r, hrw⟩ := prettyRow_ok (hr (.marshal m) (by simp))
          obtain ⟨rs, hgo⟩ := ih rest k hl' hr' hk.2
          simp only [hrw, hgo]
          exact ⟨_, rfl⟩

theorem c14_total_top (env : PrintEnv) (evs : List Event) (h : Shaped env evs) : ∃ rows, prettyRows env evs = .ok rows :=
  c14_total env _ evs 0 (Nat.lt_succ_self _) h.resolves h.kids

theorem shaped_of_b {env : PrintEnv} {evs : List Event} (h : shapedB env evs = true) : Shaped env evs := by
  simp only [shapedB, Bool.and_eq_true, List.all_eq_true] at h
  refine ⟨fun e he => ?_, h.2⟩
  have := h.1 e he
  cases e with
  | warning w => trivial
  | marshal m =>
    simp only [resolvesB, Bool.or_eq_true, Option.isNone_iff_eq_none, Option.isSome_iff_exists] at this
    exact this

/-- the computable form: `shapedB` is what the driver evaluates on every decoded stream (the `K` line of `PRINT`) -/
theorem c14_total_b (env : PrintEnv) (evs : List Event) (h : shapedB env evs = true) : ∃ rows, prettyRows env evs = .ok rows :=
  c14_total_top env evs (shaped_of_b h)

/-- the events printer is a total function by construction: one row per event, in order -/
theorem c14_events_rows (env : PrintEnv) : ∀ (evs : List Event) (k : Nat), (eventsRows env evs k).length = evs.length := by
  intro evs
  induction evs with
  | nil => intro k; rfl
  | cons e rest ih => intro k; cases e <;> simp [eventsRows, ih]

end C14
