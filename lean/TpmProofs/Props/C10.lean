import TpmProofs.PumpFacts
import TpmProofs.Props.MsgWF
import TpmProofs.TruncPump
/-!
# C10 — decoding is incremental: one byte of look-ahead, prefix-stable, source-agnostic
-/
namespace C10

/-- **look-ahead** (stronger than stated: every input, not only well-formed ones and their prefixes):
whenever strict decoding emits an event it has pulled at most one byte beyond the bytes of the fields
emitted so far. -/
theorem c10_lookahead (tb : MsgTables) (top : Top) (x : List Byte)
    (pre : List (Nat × Event)) (pe : Nat × Event) (post : List (Nat × Event))
    (h : (marshalRun true tb top x).events = pre ++ pe :: post) :
    pe.1 ≤ (evsBytes ((pre ++ [pe]).map (·.2))).length + 1 := lookahead_facts tb top x pre pe post h

/-- the pump never pulls more than the input holds -/
theorem c10_pulls_bounded (isStream : Bool) (len : Nat) : ∀ (out acc : List (Nat × Event)) (cc : Option Int),
    (∀ ke ∈ acc, ke.1 ≤ len) → ∀ ke ∈ (pumpEvents isStream len out acc cc).1, ke.1 ≤ len := by
  intro out acc cc h ke hke
  rw [pumpEvents_eq] at hke
  rcases List.mem_append.mp hke with hke | hke
  · exact h ke hke
  · obtain ⟨a, _, rfl⟩ := List.mem_map.mp hke
    exact Nat.min_le_right _ _

/-- **source independence**: the pump uses its byte source only through `next`; a source is a state
machine `next : σ → Option (Byte × σ)`, and draining it gives the list the decode is a function of. -/
def drain {σ : Type} (next : σ → Option (Byte × σ)) : Nat → σ → List Byte
  | 0, _ => []
  | fuel+1, s => match next s with
    | none => []
    | some (b, s') => b :: drain next fuel s'

/-- decoding from any source = decoding the list of bytes it yields (by definition of the model's
`marshalSrc`; the content is that nothing else of the source is observable) -/
def marshalSrc {σ : Type} (abort : Bool) (tb : MsgTables) (top : Top) (next : σ → Option (Byte × σ)) (fuel : Nat) (s : σ) : Run :=
  marshalRun abort tb top (drain next fuel s)

theorem c10_source {σ τ : Type} (abort : Bool) (tb : MsgTables) (top : Top)
    (n1 : σ → Option (Byte × σ)) (n2 : τ → Option (Byte × τ)) (f1 f2 : Nat) (s1 : σ) (s2 : τ)
    (h : drain n1 f1 s1 = drain n2 f2 s2) :
    marshalSrc abort tb top n1 f1 s1 = marshalSrc abort tb top n2 f2 s2 := by
  unfold marshalSrc; rw [h]

/-- **prefix stability**, every input: the events shown while decoding the first `k` bytes of `x` are a prefix of the
events shown while decoding `x` — a consumer that has seen the events for a prefix never has to retract one when
more bytes arrive (pull counts aside; everything but the stream loop, which looks at the end of the input) -/
theorem c10_prefix_stable (tb : MsgTables) (top : Top) (hs : top.isStream = false) (x : List Byte) (k : Nat) :
    (marshalRun true tb top (x.take k)).evs <+: (marshalRun true tb top x).evs :=
  prefix_stable tb top hs x k

/-- … and they are exactly the events of the fields complete within the prefix -/
theorem c10_prefix_exact (tb : MsgTables) (top : Top) (hs : top.isStream = false) (x : List Byte) (k : Nat)
    (hk : k < consumed tb top x) :
    (marshalRun true tb top (x.take k)).evs = ((traceOf tb top x).filter fun ke => ke.1 ≤ k).map (·.2) := by
  rw [evs_trace tb top hs, traceOf_take tb top hs]

end C10
