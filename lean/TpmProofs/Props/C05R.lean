import TpmProofs.Reroot
import TpmProofs.Props.C14S
/-!
# C05 / C10 / C09 below a caller-supplied root path: `Binary.marshal(..., root_path=R)`

`TpmModel/Root.lean` models the run with the walker started at `R` and the pump recognising the root event and the command code
relative to `R` (the behaviour after the repair 7ba2aa4).  `TpmProofs/Reroot.lean` proves, as an equation for every walker, that
re-rooting commutes with decoding; here it is instantiated for the tables of /repo: **for every layout, command, response and
stream, either mode, every root `R` and EVERY input, the observation below `R` is the default-root observation with `R` put in
place of the root** — same events (paths re-rooted), same pull counts, same outcome (a stream ends silently below `R` exactly when it
does at the default root; depleted / superfluous / raised alike, error paths re-rooted), same command code.  So every theorem about
`marshalRun` (C01–C13) carries over to any root path.
-/
namespace C05

theorem rooted_trace (abort : Bool) (top : Top) (htop : ∀ t, top = .ty t → t ∈ Generated.allTypes) (x : List Byte) :
    Rooted (stOf (runWalker abort Generated.msgTables top x)).out := by
  intro ke hke m hm
  have : Event.marshal m ∈ (stOf (runWalker abort Generated.msgTables top x)).out.map (·.2) := by
    rw [← hm]; exact List.mem_map_of_mem hke
  obtain ⟨⟨r, hr, _⟩, _⟩ := (C04.trace_gd (C14.class_link abort) top htop x).1 m this
  exact ⟨r, hr⟩

/-- **the observation below any root is the default-root observation, re-rooted** -/
theorem c05_root_path (abort : Bool) (top : Top) (htop : ∀ t, top = .ty t → t ∈ Generated.allTypes) (Rt : Path) (x : List Byte) :
    marshalRunAt abort Generated.msgTables top Rt x = mapRun (rr Rt) (marshalRun abort Generated.msgTables top x) :=
  marshalRunAt_rr abort Generated.msgTables top Rt x (rooted_trace abort top htop x)

/-- in particular the outcome: a stream below `R` ends cleanly exactly when it does at the default root -/
theorem c05_root_path_silent (abort : Bool) (Rt : Path) (x : List Byte) :
    (marshalRunAt abort Generated.msgTables .stream Rt x).outcome = .silent ↔
      (marshalRun abort Generated.msgTables .stream x).outcome = .silent := by
  rw [c05_root_path abort .stream (fun t ht => by cases ht) Rt x]
  simp only [mapRun]
  cases (marshalRun abort Generated.msgTables .stream x).outcome <;> simp [mapOutcome]

/-- not vacuous: a Startup command and its response as a stream below the root `.log.entry` end silently (kernel-evaluated) -/
example : (match (marshalRunAt true Generated.msgTables .stream (rootPath ++ [⟨"log", none⟩, ⟨"entry", none⟩])
      [0x80, 0x01, 0, 0, 0, 0x0c, 0, 0, 0x01, 0x44, 0, 0, 0x80, 0x01, 0, 0, 0, 0x0a, 0, 0, 0, 0]).outcome with
    | .silent => true | _ => false) = true := by decide +kernel

end C05
