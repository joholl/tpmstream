import TpmProofs.PumpFacts
/-!
# C02 — re-encoding the events of a decodable input reproduces the input bytes

`Event.bytes` is `Binary.unmarshal` of one event: the big-endian two's-complement bytes of a primitive
event at its declared width, nothing for structural events and warnings.
-/
namespace C02

/-- **C02 (strict)**: for every layout, every command code / flag and EVERY input that strict decoding
accepts, concatenating the re-encoded events yields the input byte for byte. -/
theorem c02_strict (tb : MsgTables) (top : Top) (x : List Byte) (v : Val)
    (h : (marshalRun true tb top x).outcome = .done v) :
    evsBytes (marshalRun true tb top x).evs = x := done_facts tb top x v h

/-- **C02 (slices)**: each event re-encodes to exactly the slice of the input at the offset given by the
bytes of the events before it; structural events re-encode to nothing (their slice is empty). -/
theorem c02_slices (tb : MsgTables) (top : Top) (x : List Byte) (v : Val)
    (h : (marshalRun true tb top x).outcome = .done v)
    (pre : List Event) (e : Event) (post : List Event) (hd : (marshalRun true tb top x).evs = pre ++ e :: post) :
    e.bytes = (x.drop (evsBytes pre).length).take e.bytes.length :=
  evsBytes_slice (c02_strict tb top x v h) hd

/-- structural events and warnings re-encode to nothing -/
theorem c02_structural (m : MEvent) (h : m.val = none) : (Event.marshal m).bytes = [] := by
  simp [Event.bytes, MEvent.bytes, h]
theorem c02_warning (e : Err) : (Event.warning e).bytes = [] := rfl

/-- a primitive event re-encodes to exactly its declared width -/
theorem c02_width (m : MEvent) (x : Int) (h : m.val = some x) : (Event.marshal m).bytes.length = m.width := by
  simp [Event.bytes, MEvent.bytes, h, intToBytes_length]

/-- the walker stamps every primitive event with its type's declared width and the decoded integer:
re-encoding a just-decoded field gives back the bytes it was decoded from -/
theorem c02_field (size : Nat) (signed : Bool) (bs : List Byte) (h : bs.length = size) :
    intToBytes size (intOfBytes size signed bs) = bs := intToBytes_intOfBytes size signed bs h

end C02
