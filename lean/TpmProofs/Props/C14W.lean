import TpmProofs.Props.C14
/-!
# C14: every warning is shown as exactly one row, in order

The pretty printer numbers the info rows by the position of their warning among the warnings of the stream; whenever it
returns rows, the info rows are exactly `0, 1, …, n-1` in this order, `n` the number of warnings — also for warnings that
arrive while a byte buffer is being folded (they are shown right after the buffer's row, still in order).
-/
namespace C14

def infoIdx (rows : List Row) : List Nat :=
  rows.filterMap fun r => match r with
    | .info k => some k
    | .field .. => none

theorem infoIdx_append (a b : List Row) : infoIdx (a ++ b) = infoIdx a ++ infoIdx b := by simp [infoIdx]
theorem infoIdx_field (t : String) (d : Nat) (n : String) (h : List Byte) (v : String) (rs : List Row) :
    infoIdx (.field t d n h v :: rs) = infoIdx rs := by simp [infoIdx]
theorem infoIdx_info (k : Nat) (rs : List Row) : infoIdx (.info k :: rs) = k :: infoIdx rs := by simp [infoIdx]

theorem infoIdx_infos : ∀ l : List Nat, infoIdx (l.map Row.info) = l
  | [] => rfl
  | k :: l => by rw [List.map_cons, infoIdx_info, infoIdx_infos l]

theorem attrRows_noinfo (env : PrintEnv) (m : MEvent) : infoIdx (if hasAttrs env m then attrRows env m else []) = [] := by
  unfold attrRows
  split
  · split
    · simp [infoIdx, List.filterMap_map]
    · rfl
  · rfl

theorem renderRun_info (env : PrintEnv) : ∀ (run : List Event) (k : Nat),
    infoIdx (renderRun env run k) = List.range' k (nWarn run)
  | [], _ => rfl
  | .warning _ :: r, k => by rw [renderRun, infoIdx_info, renderRun_info env r, nWarn_cons_w, List.range'_succ]
  | .marshal c :: r, k => by rw [renderRun, plainRow, infoIdx_field, renderRun_info env r, nWarn_cons_m]

theorem Block.render_info (env : PrintEnv) (k : Nat) : ∀ (b : Block),
    infoIdx (b.render env k) = List.range' k (nWarn b.events)
  | .info _ => rfl
  | .plain m => by simp [Block.render, plainRow, infoIdx_field, attrRows_noinfo, Block.events, nWarn]
  | .buffer p run => by simp [Block.render, bufRow, infoIdx_field, infoIdx_infos, Block.events, nWarn_cons_m]
  | .elems p run => by
    simp only [Block.render, Block.events, nWarn_cons_m]
    split
    · rw [infoIdx_append, renderRun_info, plainRow, infoIdx_field]
      exact List.append_nil _
    · exact renderRun_info env run k

theorem render_info (env : PrintEnv) : ∀ (bs : List Block) (k : Nat),
    infoIdx (render env k bs) = List.range' k (nWarn (bs.flatMap Block.events))
  | [], _ => rfl
  | b :: bs, k => by
    rw [render_cons, infoIdx_append, b.render_info env k, render_info env bs, List.flatMap_cons, nWarn_append,
      List.range'_append_1]

/-- **C14 (warnings)**: whenever the pretty printer returns rows, its info rows are exactly `0, 1, …, n-1`, in this order, where
`n` is the number of warnings in the stream: every warning is shown exactly once, in event order -/
theorem c14_warnings_once (env : PrintEnv) (evs : List Event) (rows : List Row) (h : prettyRows env evs = .ok rows) :
    infoIdx rows = List.range (nWarn evs) := by
  obtain ⟨h1, h2⟩ := prettyGo_blocks env _ evs 0 rows h
  rw [h1, render_info, h2, List.range_eq_range']

end C14
