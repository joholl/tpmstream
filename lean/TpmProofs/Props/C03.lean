import TpmProofs.DecodeOk
import TpmProofs.DecodeSound
import TpmProofs.MsgPump
import TpmModel.Generated.Types
import TpmProofs.Props.C08
import TpmProofs.Props.C01
/-!
# C03 — strict mode accepts an input only if every size field is exact

The three detection points, as theorems about the constraint machinery (any stack of regions):
* a size that cannot fit in an enclosing region is reported when that size is read (`anticipated`),
* a field that would cross a region's end is reported before it is consumed (`exceeded`,
  see also `C08.c08_skip_exceeded`),
* a region that ends short is reported when its last field is done (`subceeded`),
each naming the violated size field's path, its limit, the bytes counted so far and the offending
field / excess; and the positive direction: exact sizes pass every check (`decode_ok`).
-/
namespace C03

/-- the first (outermost) enclosing region that a size `v` just read at `vpath` cannot fit into is
reported, with that region's path, limit, counted bytes, the size field and its value, and the excess -/
theorem c03_anticipated (vpath : Path) (v id : Nat) (pre : List SC) (c : SC) (post : List SC) (s : St) (m : Nat)
    (hpre : Room pre v) (hid : c.id ≠ id) (hm : c.max = some m) (hover : m < c.already + v)
    (hpreid : ∀ d ∈ pre, d.id ≠ id) :
    anticipateM true vpath v id { s with scs := pre ++ c :: post } =
      .error (.anticipated c.id c.path m c.already vpath v (c.already + v - m), { s with scs := pre ++ c :: post }) := by
  have : anticipate vpath v id (pre ++ c :: post) =
      some (.anticipated c.id c.path m c.already vpath v (c.already + v - m)) := by
    induction pre with
    | nil => simp [anticipate, hid, SC.over, hm, hover]
    | cons d rest ih =>
      have hd : d.over v = false := over_false (hpre d (by simp))
      have hdi : d.id ≠ id := hpreid d (by simp)
      simp only [List.cons_append, anticipate, hdi, if_false, hd, Bool.false_eq_true]
      exact ih (fun e he => hpre e (by simp [he])) (fun e he => hpreid e (by simp [he]))
  simp [anticipateM, this]

/-- a field of width `size` at `path` that would cross the end of the first (outermost) violated region is
reported before it is consumed: only the rest of that region is taken from the input, not the field -/
theorem c03_exceeded (path : Path) (size : Nat) (pre : List SC) (c : SC) (post : List SC) (s : St) (m : Nat)
    (hpre : Room pre size) (hm : c.max = some m) (hover : m < c.already + size) (hlen : m - c.already ≤ s.inp.length) :
    ∃ scs', bytesParsed path size { s with scs := pre ++ c :: post } =
      .error (.exceeded c.id c.path m c.already path (c.already + size - m),
        { s with scs := scs', inp := s.inp.drop (m - c.already), pos := s.pos + (m - c.already) }) := by
  unfold bytesParsed
  simp only []
  suffices h : ∀ done, ∃ scs', bpGo path size done (pre ++ c :: post) { s with scs := pre ++ c :: post } =
      .error (.exceeded c.id c.path m c.already path (c.already + size - m),
        { s with scs := scs', inp := s.inp.drop (m - c.already), pos := s.pos + (m - c.already) }) from h []
  induction pre with
  | nil =>
    intro done
    have := C08.c08_skip_exceeded path size c post done { s with scs := c :: post } m hm hover hlen
    exact ⟨_, by simpa using this⟩
  | cons d rest ih =>
    intro done
    have hd : d.over size = false := over_false (hpre d (by simp))
    have hr : Room rest size := fun e he => hpre e (by simp [he])
    simp only [List.cons_append, bpGo, hd, Bool.false_eq_true, if_false]
    -- the state's own `scs` field is irrelevant to `bpGo` (it works on the explicit lists)
    obtain ⟨scs', h⟩ := ih hr (done ++ [d.bump size])
    refine ⟨scs', ?_⟩
    rw [← h]
    exact bpGo_state_irrel path size _ _ _ _ _
where
  bpGo_state_irrel (path : Path) (size : Nat) : ∀ (todo done : List SC) (s : St) (a b : List SC),
      bpGo path size done todo { s with scs := a } = bpGo path size done todo { s with scs := b } := by
    intro todo done s a b
    rcases bpGo_cases path size todo done with h | ⟨_, _, _, -, -, h⟩
    · rw [h, h]
    · rw [h, h]

/-- a region that ends short is reported when its last field is done, naming its path, limit and count -/
theorem c03_subceeded (c : SC) (s : St) (m : Nat) (hm : c.max = some m) (hne : c.already ≠ m) :
    assertDoneSC true c s = .error (.subceeded c.id c.path m c.already, s) := by
  simp [assertDoneSC, hm, hne]

/-- an exact region passes its end check silently -/
theorem c03_exact_ok (abort : Bool) (c : SC) (s : St) (m : Nat) (hm : c.max = some m) (he : c.already = m) :
    assertDoneSC abort c s = .ok ((), s) := by
  simp [assertDoneSC, hm, he]

/-! ## acceptance ⇒ every size field exact (structures) -/

/-- (tables) every layout in `/repo` meets the side conditions of the converse: size fields of size-prefixed
buffers are at least one byte wide, signed fields are at least one byte wide -/
theorem c03_tables : Generated.allTypes.all Ty.wf = true := by decide +kernel

/-- **C03, "accepts only if"** (walker level): whatever the strict walker accepts for a layout conforms to it — in
particular (that is what `spec` demands of a `TPM2B`) every size field equals the byte length of the region it
governs, every count equals the number of elements, every value is in its set; the bytes consumed are exactly the
encoding, the events exactly the dictated ones, every enclosing region charged exactly the length -/
theorem c03_accept_only_if (t : Ty) (hwf : t.wf = true) (path : Path) (sel : Option Int) (s s' : St) (v : Val)
    (hfresh : Fresh s.scs s.pos) (h : decode true t path sel s = .ok (v, s')) : Snd (spec t path sel v) s s' :=
  decode_sound t hwf path sel s s' v hfresh h

/-- the strict walker accepts all of `x` as a `t` with value `v` iff `v` conforms to `t` with encoding exactly `x` -/
theorem type_walker_iff (t : Ty) (hwf : t.wf = true) (tb : MsgTables) (x : List Byte) (v : Val) :
    (∃ s', runWalker true tb (.ty t) x = .ok (v, s') ∧ s'.inp = []) ↔ ∃ evs, spec t rootPath none v = some (x, evs) := by
  constructor
  · rintro ⟨s', hw, hinp⟩
    obtain ⟨bs, evs, hspec, hi, _⟩ := decode_sound t hwf rootPath none (initSt x) s' v (fun c hc => nomatch hc) hw
    simp only [initSt, hinp, List.append_nil] at hi
    exact ⟨evs, by rw [hspec, hi]⟩
  · rintro ⟨evs, h⟩
    exact ⟨_, C01.c01_top t v x evs h tb, rfl⟩

/-- **C01 ∧ C03 for structures: strict acceptance ⇔ conformance.**  `Binary.marshal(T, x)` completes with object `v`
if and only if `v` conforms to `T` with encoding exactly `x`; and then the events shown are exactly the dictated ones -/
theorem c03_accept_iff (t : Ty) (hwf : t.wf = true) (tb : MsgTables) (x : List Byte) (v : Val) :
    (marshalRun true tb (.ty t) x).outcome = .done v ↔ ∃ evs, spec t rootPath none v = some (x, evs) :=
  (outcome_done_iff rfl).trans (type_walker_iff t hwf tb x v)

end C03
