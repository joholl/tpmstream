import TpmModel.Front
import TpmModel.Generated.Misc
import TpmModel.Pinned.Misc
import TpmProofs.Props.C10
/-!
# C15 — hex, swtpm-log, pcapng and auto inputs decode like the bytes they carry

The front-ends only turn their input into a byte stream that is handed to `Binary.marshal`; by source
independence (C10) the events are then those of decoding the carried bytes.  So the statements here are
about the byte streams.
-/
namespace C15

/-! ### hex text -/

def nonWs (b : Byte) : Bool := !isWs b

theorem hexGo_filter : ∀ (s : List Byte) (st : Option Byte) (acc : List Byte),
    hexGo s st acc = hexGo (s.filter nonWs) st acc := by
  intro s
  induction s with
  | nil => intro st acc; rfl
  | cons b rest ih =>
    intro st acc
    by_cases hb : isWs b = true
    · have : (b :: rest).filter nonWs = rest.filter nonWs := by simp [nonWs, hb]
      rw [this, ← ih]
      cases st <;> simp [hexGo, hb]
    · have hb' : isWs b = false := by simpa using hb
      have : (b :: rest).filter nonWs = b :: rest.filter nonWs := by simp [nonWs, hb']
      rw [this]
      cases st with
      | none => simp only [hexGo, hb', Bool.false_eq_true, if_false]; exact ih _ _
      | some h =>
        simp only [hexGo, hb', Bool.false_eq_true, if_false]
        split
        · exact ih _ _
        · rfl

/-- **whitespace is irrelevant**: arbitrary ASCII whitespace before, between, inside and after pairs does
not change the result — the text decodes exactly like the text with all whitespace removed -/
theorem c15_hex_whitespace (s : List Byte) : hexParse s = hexParse (s.filter nonWs) := hexGo_filter s none []

/-- the strict reading of a whitespace-free text: pairs of hex digits -/
def pairs : List Byte → Option (List Byte)
  | [] => some []
  | [_] => none
  | h :: l :: rest =>
    match hexDigitVal h, hexDigitVal l, pairs rest with
    | some x, some y, some bs => some (UInt8.ofNat (x * 16 + y) :: bs)
    | _, _, _ => none

theorem hexGo_pairs : ∀ (t : List Byte), (∀ b ∈ t, isWs b = false) → ∀ (acc bs : List Byte),
    (hexGo t none acc = .ok bs ↔ ∃ ps, pairs t = some ps ∧ bs = acc.reverse ++ ps)
  | [], _, acc, bs => by simp [hexGo, pairs, eq_comm]
  | [h], hws, acc, bs => by
    have := hws h (by simp)
    simp [hexGo, pairs, this]
  | h :: l :: rest, hws, acc, bs => by
    have h1 := hws h (by simp)
    have h2 := hws l (by simp)
    simp only [hexGo, h1, h2, Bool.false_eq_true, if_false, pairs]
    cases hx : hexDigitVal h <;> cases hy : hexDigitVal l <;> simp only []
    · simp
    · simp
    · simp
    · rw [hexGo_pairs rest fun b hb => hws b (by simp [hb])]
      cases hp : pairs rest with
      | none => simp
      | some ps => simp [List.reverse_cons, List.append_assoc]

/-- **only hex pairs are accepted**: a text is decoded to `bs` exactly when, after removing whitespace, it is
a sequence of hex-digit pairs spelling `bs` (any letter case); anything else is a `ValueError` -/
theorem c15_hex_iff (s : List Byte) (bs : List Byte) :
    hexParse s = .ok bs ↔ pairs (s.filter nonWs) = some bs := by
  rw [c15_hex_whitespace]
  unfold hexParse
  have hws : ∀ b ∈ s.filter nonWs, isWs b = false := by
    intro b hb; have := (List.mem_filter.mp hb).2; simpa [nonWs] using this
  rw [hexGo_pairs _ hws]
  simp

/-- a hex text never yields anything but `ok` or `ValueError` -/
theorem c15_hex_total (s : List Byte) : (∃ bs, hexParse s = .ok bs) ∨ (∃ bs, hexParse s = .valueError bs) := by
  cases h : hexParse s with
  | ok bs => exact Or.inl ⟨bs, rfl⟩
  | valueError bs => exact Or.inr ⟨bs, rfl⟩

def hexChar (n : Nat) (upper : Bool) : Byte :=
  if n < 10 then UInt8.ofNat (48 + n) else if upper then UInt8.ofNat (55 + n) else UInt8.ofNat (87 + n)

theorem hexDigitVal_hexChar : ∀ (n : Nat), n < 16 → ∀ u, hexDigitVal (hexChar n u) = some n := by
  decide

/-- rendering of bytes as hex pairs with a free choice of letter case per digit -/
def renderPairs : List (Byte × Bool × Bool) → List Byte
  | [] => []
  | (b, u1, u2) :: rest => hexChar (b.toNat / 16) u1 :: hexChar (b.toNat % 16) u2 :: renderPairs rest

theorem ofNat_nibbles (b : Byte) : UInt8.ofNat (b.toNat / 16 * 16 + b.toNat % 16) = b := by
  apply UInt8.toNat_inj.mp
  have := b.toNat_lt
  simp; omega

theorem pairs_render : ∀ items : List (Byte × Bool × Bool), pairs (renderPairs items) = some (items.map (·.1)) := by
  intro items
  induction items with
  | nil => rfl
  | cons it rest ih =>
    obtain ⟨b, u1, u2⟩ := it
    have hb := b.toNat_lt
    simp only [renderPairs, pairs, hexDigitVal_hexChar _ (show b.toNat / 16 < 16 by omega),
      hexDigitVal_hexChar _ (show b.toNat % 16 < 16 by omega), ih, List.map_cons, ofNat_nibbles]

/-- **every rendering decodes to the bytes it carries**: any text whose whitespace-free content is the
pairwise rendering of `bs` (any letter case per digit, whitespace anywhere) decodes to `bs` -/
theorem c15_hex_render (s : List Byte) (items : List (Byte × Bool × Bool)) (h : s.filter nonWs = renderPairs items) :
    hexParse s = .ok (items.map (·.1)) := by
  rw [c15_hex_iff, h, pairs_render]

/-! ### pcapng payloads -/

/-- runt packets (fewer than 10 bytes, including empty ones) carry nothing -/
theorem c15_pcap_runt (p : List Byte) (h : p.length < 10) : trimPayload p = none := by simp [trimPayload, h]

/-- a packet whose own size field (bytes 2..6, big-endian) says `n` carries its first `n` bytes (all of it when
the size field equals its length) -/
theorem c15_pcap_trim (p : List Byte) (h : 10 ≤ p.length) :
    trimPayload p = some (p.take (fromBE ((p.drop 2).take 4))) := by
  have hn : ¬ p.length < 10 := by omega
  simp only [trimPayload, hn, if_false]
  split
  · rfl
  · rename_i heq
    have : fromBE ((p.drop 2).take 4) = p.length := by simpa using heq
    rw [this, List.take_length]

theorem c15_pcap_concat (ps : List (List Byte)) : pcapBytes ps = (ps.filterMap trimPayload).flatten := rfl

/-! ### auto-detection -/

theorem c15_auto (a b : Byte) (rest : List Byte) :
    autoDetect (a :: b :: rest) =
      some (if a = 0x0a ∧ b = 0x0d then .pcapng
            else if (hexDigitVal a).isSome ∧ (hexDigitVal b).isSome then .hex else .binary) := by
  unfold autoDetect
  by_cases h1 : a = 0x0a <;> by_cases h2 : b = 0x0d <;> simp [h1, h2] <;> split <;> rfl

/-- TPM messages start with 0x80 0x01 / 0x80 0x02: never mistaken for hex or pcapng -/
theorem c15_auto_binary (t : Byte) (rest : List Byte) : autoDetect (0x80 :: t :: rest) = some .binary := by
  unfold autoDetect; simp [hexDigitVal]

/-! ### swtpm log: constants -/

/-- (tables) the scanner's markers and alphabets are the pinned ones -/
theorem c15_swtpm_consts : Generated.swtpmConsts = Pinned.swtpmConsts ∧
    Generated.swtpmConsts.cmdMarker = [83, 87, 84, 80, 77, 95, 73, 79] ∧ Generated.swtpmConsts.ctrlMarker = [67, 116, 114, 108] ∧
    Generated.swtpmConsts.validHex = [48, 49, 50, 51, 52, 53, 54, 55, 56, 57, 65, 66, 67, 68, 69, 70] ∧
    Generated.swtpmConsts.validWs = [32, 13, 10] := ⟨rfl, rfl, rfl, rfl, rfl⟩

end C15

namespace C15
/-! ### swtpm log: the documented layout -/

/-- the scanner's constants as in the specification of the format -/
def std : SwtpmConsts :=
  ⟨[83, 87, 84, 80, 77, 95, 73, 79], [67, 116, 114, 108],
   [48, 49, 50, 51, 52, 53, 54, 55, 56, 57, 65, 66, 67, 68, 69, 70], [32, 13, 10]⟩

theorem std_eq : Generated.swtpmConsts = std := rfl

def upperHex (n : Nat) : Byte := if n < 10 then UInt8.ofNat (48 + n) else UInt8.ofNat (55 + n)

/-- payload: upper-case hex pairs, each preceded by any amount of blanks / CR / LF -/
def renderU : List (List Byte × Byte) → List Byte
  | [] => []
  | (ws, b) :: rest => ws ++ upperHex (b.toNat / 16) :: upperHex (b.toNat % 16) :: renderU rest

def wsOk (ws : List Byte) : Prop := ∀ b ∈ ws, b = 32 ∨ b = 13 ∨ b = 10

/-- free text is skipped while looking for the command marker -/
theorem skipText (text rest v acc : List Byte) (h : ∀ b ∈ text, b ≠ 83) :
    swGo std (text ++ rest) .wantMarker [] v acc = swGo std rest .wantMarker [] v acc := by
  induction text with
  | nil => rfl
  | cons b t ih =>
    have hb : b ≠ 83 := h b (by simp)
    have : ¬ ((83 : Byte) = b) := fun e => hb e.symm
    simp only [List.cons_append, swGo, std, List.length_nil, List.drop_zero, List.head?_cons, beq_iff_eq,
      Option.some.injEq, this, if_false]
    exact ih (fun c hc => h c (by simp [hc]))

theorem marker (rest v acc : List Byte) :
    swGo std ([83, 87, 84, 80, 77, 95, 73, 79] ++ rest) .wantMarker [] v acc = swGo std rest .wantStart [] v acc := by
  simp [swGo, std]

/-- between payload bytes the marker's first byte switches the scanner to marker matching -/
theorem markerHigh (rest acc : List Byte) :
    swGo std ([83, 87, 84, 80, 77, 95, 73, 79] ++ rest) .wantHigh [] [] acc = swGo std rest .wantStart [] [] acc := by
  simp [swGo, std]

/-- … and `Ct` where a hex pair is expected ends the payload -/
theorem ctrlHigh (rest acc : List Byte) :
    swGo std ([67, 116, 114, 108] ++ rest) .wantHigh [] [] acc = swGo std rest .wantMarker [] [] acc := by
  simp [swGo, std]

theorem headerTail (tail rest m v acc : List Byte) (h : ∀ b ∈ tail, b ≠ 10) :
    swGo std (tail ++ 10 :: rest) .wantStart m v acc = swGo std rest .wantHigh m v acc := by
  induction tail with
  | nil => simp [swGo]
  | cons b t ih =>
    have hb : b ≠ 10 := h b (by simp)
    simp only [List.cons_append, swGo, beq_iff_eq, hb, if_false]
    exact ih (fun c hc => h c (by simp [hc]))

theorem skipWs (ws rest m acc : List Byte) (h : wsOk ws) :
    swGo std (ws ++ rest) .wantHigh m [] acc = swGo std rest .wantHigh m [] acc := by
  induction ws with
  | nil => rfl
  | cons b t ih =>
    have hb := h b (by simp)
    have hc : std.validWs.contains b = true := by
      rcases hb with rfl | rfl | rfl <;> decide
    simp only [List.cons_append, swGo, hc, if_true]
    exact ih (fun c hc => h c (by simp [hc]))

theorem upperHex_facts : ∀ n, n < 16 →
    std.validWs.contains (upperHex n) = false ∧ (std.cmdMarker.head? == some (upperHex n)) = false ∧
    std.validHex.contains (upperHex n) = true ∧ upperHex n ≠ 116 ∧ upperHexVal (upperHex n) = n := by decide

theorem onePair (b : Byte) (rest acc : List Byte) :
    swGo std (upperHex (b.toNat / 16) :: upperHex (b.toNat % 16) :: rest) .wantHigh [] [] acc =
      swGo std rest .wantHigh [] [] (b :: acc) := by
  have hb := b.toNat_lt
  obtain ⟨h1, h2, h3, _, h5⟩ := upperHex_facts (b.toNat / 16) (by omega)
  obtain ⟨_, _, g3, g4, g5⟩ := upperHex_facts (b.toNat % 16) (by omega)
  have hne : ((std.ctrlMarker.drop 1).head? == some (upperHex (b.toNat % 16))) = false := by
    simp only [std, List.drop_succ_cons, List.drop_zero, List.head?_cons, beq_eq_false_iff_ne, ne_eq, Option.some.injEq]
    exact fun e => g4 e.symm
  simp only [swGo, h1, h2, h3, g3, hne, Bool.false_eq_true, if_false, Bool.and_false, Bool.not_true, List.nil_append,
    List.cons_append, List.foldl_cons, List.foldl_nil, h5, g5, Nat.zero_mul, Nat.zero_add, ofNat_nibbles]

theorem payload : ∀ (items : List (List Byte × Byte)) (rest acc : List Byte), (∀ it ∈ items, wsOk it.1) →
    swGo std (renderU items ++ rest) .wantHigh [] [] acc =
      swGo std rest .wantHigh [] [] ((items.map (·.2)).reverse ++ acc) := by
  intro items
  induction items with
  | nil => intro rest acc _; rfl
  | cons it t ih =>
    intro rest acc h
    obtain ⟨ws, b⟩ := it
    simp only [renderU, List.append_assoc, List.cons_append]
    rw [skipWs ws _ [] acc (h (ws, b) (by simp)), onePair, ih _ _ (fun i hi => h i (by simp [hi]))]
    simp

/-- one section of a log after the free-text preamble -/
inductive Section where
  /-- `SWTPM_IO<tail>\n<payload>`: e.g. tail = "_Read: length 10" -/
  | io (lead tail : List Byte) (payload : List (List Byte × Byte))
  /-- `Ctrl<text>`: a control-channel section (header and hex data), ignored -/
  | ctrl (lead text : List Byte)

def Section.render : Section → List Byte
  | .io lead tail p => lead ++ std.cmdMarker ++ tail ++ 10 :: renderU p
  | .ctrl lead text => lead ++ std.ctrlMarker ++ text

def Section.ok : Section → Prop
  | .io lead tail p => wsOk lead ∧ (∀ b ∈ tail, b ≠ 10) ∧ ∀ it ∈ p, wsOk it.1
  | .ctrl lead text => wsOk lead ∧ ∀ b ∈ text, b ≠ 83

def Section.bytes : Section → List Byte
  | .io _ _ p => p.map (·.2)
  | .ctrl _ _ => []

def renderAll (secs : List Section) (trail : List Byte) : List Byte := (secs.flatMap Section.render) ++ trail

theorem wsOk_noS {ws : List Byte} (h : wsOk ws) : ∀ b ∈ ws, b ≠ 83 := by
  intro b hb; rcases h b hb with rfl | rfl | rfl <;> decide

/-- scanning from either mode — looking for a marker in text, or reading payload bytes — yields exactly the
SWTPM_IO payloads, in order -/
theorem scan : ∀ (secs : List Section) (trail acc : List Byte), (∀ s ∈ secs, s.ok) → wsOk trail →
    swGo std (renderAll secs trail) .wantMarker [] [] acc = .ok (acc.reverse ++ secs.flatMap Section.bytes) ∧
    swGo std (renderAll secs trail) .wantHigh [] [] acc = .ok (acc.reverse ++ secs.flatMap Section.bytes) := by
  intro secs
  induction secs with
  | nil =>
    intro trail acc _ ht
    simp only [renderAll, List.flatMap_nil, List.nil_append, List.append_nil]
    constructor
    · have := skipText trail [] [] acc (wsOk_noS ht)
      simp only [List.append_nil] at this
      rw [this]; simp [swGo]
    · have := skipWs trail [] [] acc ht
      simp only [List.append_nil] at this
      rw [this]; simp [swGo]
  | cons s rest ih =>
    intro trail acc hs ht
    have hrest : ∀ x ∈ rest, x.ok := fun x hx => hs x (by simp [hx])
    have hsok := hs s (by simp)
    have hra : renderAll (s :: rest) trail = s.render ++ renderAll rest trail := by
      simp [renderAll, List.append_assoc]
    rw [hra]
    cases s with
    | io lead tail p =>
      obtain ⟨hl, htl, hp⟩ := hsok
      obtain ⟨_, ihP⟩ := ih trail ((p.map (·.2)).reverse ++ acc) hrest ht
      have hfin : acc.reverse ++ (Section.io lead tail p :: rest).flatMap Section.bytes =
          ((p.map (·.2)).reverse ++ acc).reverse ++ rest.flatMap Section.bytes := by
        simp [Section.bytes, List.append_assoc]
      simp only [Section.render, List.append_assoc, List.cons_append]
      constructor
      · rw [skipText lead _ [] acc (wsOk_noS hl)]
        show swGo std ([83, 87, 84, 80, 77, 95, 73, 79] ++ _) _ _ _ _ = _
        rw [marker, headerTail tail _ [] [] acc htl, payload p _ acc hp, ihP, hfin]
      · rw [skipWs lead _ [] acc hl]
        show swGo std ([83, 87, 84, 80, 77, 95, 73, 79] ++ _) _ _ _ _ = _
        rw [markerHigh, headerTail tail _ [] [] acc htl, payload p _ acc hp, ihP, hfin]
    | ctrl lead text =>
      obtain ⟨hl, htx⟩ := hsok
      obtain ⟨ihT, _⟩ := ih trail acc hrest ht
      have hfin : acc.reverse ++ (Section.ctrl lead text :: rest).flatMap Section.bytes =
          acc.reverse ++ rest.flatMap Section.bytes := by simp [Section.bytes]
      simp only [Section.render, List.append_assoc]
      constructor
      · rw [skipText lead _ [] acc (wsOk_noS hl)]
        show swGo std ([67, 116, 114, 108] ++ _) _ _ _ _ = _
        rw [skipText [67, 116, 114, 108] _ [] acc (by decide), skipText text _ [] acc htx, ihT, hfin]
      · rw [skipWs lead _ [] acc hl]
        show swGo std ([67, 116, 114, 108] ++ _) _ _ _ _ = _
        rw [ctrlHigh, skipText text _ [] acc htx, ihT, hfin]

/-- **swtpm log in its documented layout**: free text without an `S`, then control-channel and SWTPM_IO
sections of upper-case hex lines (any blanks / line ends between pairs): only the SWTPM_IO payloads count -/
theorem c15_swtpm_render (preamble : List Byte) (secs : List Section) (trail : List Byte)
    (hp : ∀ b ∈ preamble, b ≠ 83) (hs : ∀ s ∈ secs, s.ok) (ht : wsOk trail) :
    swtpmParse Generated.swtpmConsts (preamble ++ renderAll secs trail) = .ok (secs.flatMap Section.bytes) := by
  rw [std_eq]
  unfold swtpmParse
  rw [skipText preamble _ [] [] hp]
  simpa using (scan secs trail [] hs ht).1

end C15
