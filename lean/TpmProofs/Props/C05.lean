import TpmProofs.PumpFacts
import TpmProofs.DecodeOk
import TpmProofs.TruncPump
import TpmProofs.Props.MsgWF
/-!
# C05 — input length mismatches are reported as depleted / superfluous, never absorbed

Facts that hold for every layout and EVERY input in strict mode (from the byte accounting of the walker
and the definition of the pump), plus the surplus theorem for conforming encodings.
-/
namespace C05

theorem pumpOutcome_depleted {x : List Byte} {pos : Nat} {res : Except Err Val}
    (h : pumpOutcome x pos res = .depleted) : res = .error .depleted := by
  cases res with
  | ok v => simp only [pumpOutcome] at h; split at h <;> simp at h
  | error e => cases e <;> simp_all [pumpOutcome]

/-- **never absorbed (surplus)**: when strict decoding reports superfluous bytes, the input is exactly the
bytes of the emitted fields followed by exactly the reported surplus, and the surplus is not empty -/
theorem c05_superfluous_exact (tb : MsgTables) (top : Top) (x : List Byte) (rest : List Byte) (v : Val)
    (h : (marshalRun true tb top x).outcome = .superfluous rest v) :
    x = evsBytes (marshalRun true tb top x).evs ++ rest ∧ rest ≠ [] := by
  have hr := marshalRun_of_not_silent true tb top x (by simp [h])
  rw [hr] at h
  obtain ⟨hres, hlt, hrest⟩ := pumpOutcome_superfluous h
  obtain ⟨s', hw⟩ := resOf_ok hres
  obtain ⟨off, h2, -, -, h5⟩ := trace_acct tb top x
  rw [h5 (by rw [hw]; rfl), List.append_nil, ← drop_consumed, ← show rest = x.drop (consumed tb top x) from hrest] at h2
  refine ⟨by rw [hr]; simpa [Run.evs, ← evBytes_eq, traceOf] using h2, ?_⟩
  intro hnil
  have := congrArg List.length hrest
  rw [hnil, List.length_drop] at this
  simp only [List.length_nil] at this
  omega

/-- **never absorbed (complete)**: an input that strict decoding accepts is consumed entirely by the
emitted fields -/
theorem c05_done_exact (tb : MsgTables) (top : Top) (x : List Byte) (v : Val)
    (h : (marshalRun true tb top x).outcome = .done v) :
    evsBytes (marshalRun true tb top x).evs = x := done_facts tb top x v h

/-- `take` reports depletion only after consuming everything that was there -/
theorem take_depleted (n : Nat) (s s' : St) (h : take n s = .error (.depleted, s')) : s'.inp = [] := by
  unfold take at h
  split at h
  · simp only [Except.error.injEq, Prod.mk.injEq, true_and] at h; subst h; rfl
  · simp at h

/-- the command code reported with depleted / superfluous is the value of the last `commandCode` event
shown (none if none was) -/
theorem c05_cc (isStream : Bool) (len : Nat) : ∀ (out acc : List (Nat × Event)) (cc : Option Int),
    (pumpEvents isStream len out acc cc).2.2 = false →
    (pumpEvents isStream len out acc cc).2.1 = out.foldl (fun c ke => ccOf ke.2 c) cc := by
  intro out acc cc h
  rw [pumpEvents_eq] at h ⊢
  rw [takeWhile_not_of_any h]
  rfl

/-- **surplus after a well-formed value**: for every layout and conforming value with a non-empty event
list ending at the end of the encoding, appending any non-empty suffix makes the walker stop with the
suffix untouched; the pump then reports exactly that suffix -/
theorem c05_surplus_walker (t : Ty) (v : Val) (bs : List Byte) (evs : List SEv)
    (h : spec t rootPath none v = some (bs, evs)) (suffix : List Byte) (tb : MsgTables) :
    runWalker true tb (.ty t) (bs ++ suffix) = .ok (v, ⟨suffix, bs.length, stamp 0 evs, []⟩) :=
  decode_top t v bs evs h suffix tb

/-! ## truncation (every input, every layout, every top but the stream loop) -/

/-- **C05, truncated input, any input**: if strict decoding of `x` consumes more than `k` bytes — whether it then
accepts `x` or rejects it — then decoding the first `k` bytes of `x` (including `k = 0`, the empty input) raises
`InputStreamBytesDepletedError` after showing exactly the events the run on `x` emits up to byte count `k`, i.e. the
events of every field that is complete within the prefix, in order; the error carries the command code of the last
`.commandCode` event among them (`c05_cc`) -/
theorem c05_truncated (tb : MsgTables) (top : Top) (hs : top.isStream = false) (x : List Byte) (k : Nat)
    (hk : k < consumed tb top x) :
    marshalRun true tb top (x.take k) =
      ⟨shown (x.take k).length ((traceOf tb top x).filter fun ke => ke.1 ≤ k), .depleted,
       ccAfter ((traceOf tb top x).filter fun ke => ke.1 ≤ k) none⟩ :=
  truncated_run tb top hs x k hk

/-- cutting the input anywhere beyond what the decoder consumes changes the walker's result in nothing but the
bytes left over -/
theorem c05_cut_beyond (tb : MsgTables) (top : Top) (hs : top.isStream = false) (x : List Byte) (k : Nat)
    (hk : consumed tb top x ≤ k) :
    runWalker true tb top (x.take k) = (runWalker true tb top x).mapSt (cutSt (k - consumed tb top x)) :=
  truncated_beyond tb top hs x k hk

theorem filter_stamp (k : Nat) (evs : List SEv) :
    (stamp 0 evs).filter (fun ke => decide (ke.1 ≤ k)) = stamp 0 (evs.filter fun e => decide (e.1 ≤ k)) := by
  induction evs with
  | nil => rfl
  | cons e rest ih =>
    simp only [stamp, List.map_cons, List.filter_cons, Nat.zero_add] at ih ⊢
    split <;> simp [ih]

theorem truncated_of_accepted {tb : MsgTables} {top : Top} (hs : top.isStream = false) {bs : List Byte} {evs : List SEv} {v : Val}
    {scs : List SC} (hw : runWalker true tb top bs = .ok (v, ⟨[], bs.length, stamp 0 evs, scs⟩)) {k : Nat} (hk : k < bs.length) :
    marshalRun true tb top (bs.take k) =
      ⟨shown k (stamp 0 (evs.filter fun e => decide (e.1 ≤ k))), .depleted,
       ccAfter (stamp 0 (evs.filter fun e => decide (e.1 ≤ k))) none⟩ := by
  have hc : consumed tb top bs = bs.length := by simp [consumed, hw, stOf]
  have ht : traceOf tb top bs = stamp 0 evs := by simp [traceOf, hw, stOf]
  have := truncated_run tb top hs bs k (by omega)
  rw [ht, filter_stamp] at this
  rw [this]
  congr 2
  simp; omega

/-- **every truncation point of every well-formed structure**: for every layout, every conforming value and every
`k` below the length of its encoding, strict decoding of the first `k` bytes shows exactly the dictated events with
offset ≤ `k` and raises depleted -/
theorem c05_truncated_type (t : Ty) (v : Val) (bs : List Byte) (evs : List SEv) (tb : MsgTables)
    (h : spec t rootPath none v = some (bs, evs)) (k : Nat) (hk : k < bs.length) :
    marshalRun true tb (.ty t) (bs.take k) =
      ⟨shown k (stamp 0 (evs.filter fun e => decide (e.1 ≤ k))), .depleted,
       ccAfter (stamp 0 (evs.filter fun e => decide (e.1 ≤ k))) none⟩ := by
  have := c05_surplus_walker t v bs evs h [] tb
  rw [List.append_nil] at this
  exact truncated_of_accepted rfl this hk

/-- … of every well-formed command … -/
theorem c05_truncated_command (p : CmdParts) (bs : List Byte) (evs : List SEv)
    (h : specCommand Generated.msgTables rootPath p = some (bs, evs)) (k : Nat) (hk : k < bs.length) :
    marshalRun true Generated.msgTables .command (bs.take k) =
      ⟨shown k (stamp 0 (evs.filter fun e => decide (e.1 ≤ k))), .depleted,
       ccAfter (stamp 0 (evs.filter fun e => decide (e.1 ≤ k))) none⟩ := by
  exact truncated_of_accepted rfl (command_walker _ p bs evs MsgWF.tag_sizes.1 h) hk

/-- … and of every well-formed response, for every command code and encryption flag -/
theorem c05_truncated_response (cc : Option Int) (enc : Bool) (p : RspParts) (bs : List Byte) (evs : List SEv)
    (h : specResponse Generated.msgTables cc enc rootPath p = some (bs, evs)) (k : Nat) (hk : k < bs.length) :
    marshalRun true Generated.msgTables (.response cc enc) (bs.take k) =
      ⟨shown k (stamp 0 (evs.filter fun e => decide (e.1 ≤ k))), .depleted,
       ccAfter (stamp 0 (evs.filter fun e => decide (e.1 ≤ k))) none⟩ := by
  exact truncated_of_accepted rfl (response_walker _ cc enc p bs evs MsgWF.tag_sizes.2 h) hk

end C05
