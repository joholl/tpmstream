import TpmModel.Obj
import TpmModel.Generated.Types
import TpmProofs.DecodeOk
/-!
# C11 — events and Python objects convert into each other without loss

`o2e` is the model of `obj_to_events` (tied to the code by correspondence on objects of every type).
The theorem: for every layout meeting the (table-checked) side conditions and every conforming value, turning
the object back into events reproduces exactly the event list the layout dictates — which, by C01, is the
decoded event list; by C02 re-encoding it yields the original bytes.  Absent parts (null union arm, empty
size-prefixed structure) are the marker events, nothing more.
-/
namespace C11

/-- events for a value held in a slot of declared type `t`: `None` is the slot's "empty" marker -/
def o2eV (t : Ty) (v : Val) (path : Path) : List MEvent :=
  if v.isNone then [⟨path, t.eventTag, none, "", 0⟩] else o2e t v path

def Arms.hasNone : Arms → Bool
  | .nil => false
  | .consNone _ _ _ => true
  | .cons _ _ _ rest => Arms.hasNone rest
  | .consBytes _ _ _ _ rest => Arms.hasNone rest

def Arms.names : Arms → List String
  | .nil => []
  | .consNone an _ rest => an :: Arms.names rest
  | .cons an _ _ rest => an :: Arms.names rest
  | .consBytes an _ _ _ rest => an :: Arms.names rest

/-- can a slot of this type hold `None`? -/
def Ty.nullable : Ty → Bool
  | .union _ arms => Arms.hasNone arms
  | _ => false

def isUnionTy : Ty → Bool
  | .union _ _ => true
  | _ => false

mutual
/-- side conditions under which `obj_to_events` (which looks fields up by name and hard-codes a skip list) is
faithful: field / member names are unique, `size` ≠ buffer name, union members are not unions themselves, and no
nullable slot carries one of the skip-list names -/
def Ty.o2eOk : Ty → Bool
  | .prim _ => true
  | .struct _ _ fs => fs.names.Nodup && Fields.o2eOk fs
  | .tpm2bBytes _ sz _ buf _ => sz != buf
  | .tpm2b _ sz _ buf body => sz != buf && !o2eSkip.contains buf && !isUnionTy body && Ty.o2eOk body
  | .union _ arms => (Arms.names arms).Nodup && Arms.o2eOk arms
  | .bad _ => false
def Fields.o2eOk : Fields → Bool
  | .nil => true
  | .cons f kind t rest => !(o2eSkip.contains f && Ty.nullable t) && !(kind == .counted && isUnionTy t) && Ty.o2eOk t && Fields.o2eOk rest
def Arms.o2eOk : Arms → Bool
  | .nil => true
  | .consNone _ _ rest => Arms.o2eOk rest
  | .cons _ _ t rest => !isUnionTy t && Ty.o2eOk t && Arms.o2eOk rest
  | .consBytes _ _ _ _ rest => Arms.o2eOk rest
end

/-- (tables) every layout in `/repo` meets the side conditions -/
theorem c11_tables : Generated.allTypes.all Ty.o2eOk = true := by decide +kernel

/-! ### lemmas -/

theorem o2eList_ok (f : Val → Path → List MEvent) (g : Path → Val → Option (List Byte × List SEv))
    (hfg : ∀ p v b e, g p v = some (b, e) → f v p = e.map (·.2)) (path : Path) :
    ∀ (vs : List Val) (i : Nat) (bs : List Byte) (evs : List SEv), specRepeat g path vs i = some (bs, evs) →
    o2eList f path vs i = evs.map (·.2)
  | [], i, bs, evs, h => by
    simp only [specRepeat, Option.some.injEq, Prod.mk.injEq] at h
    obtain ⟨_, rfl⟩ := h
    rfl
  | v :: vs, i, bs, evs, h => by
    obtain ⟨b, e, bs', es', hb, hrest, _, rfl⟩ := specRepeat_cons_inv h
    simp [o2eList, hfg _ _ _ _ hb, o2eList_ok f g hfg path vs _ _ _ hrest, map_snd_shift]

theorem leaf_ok {p : Prim} {path : Path} {v : Val} {bs : List Byte} {evs : List SEv}
    (h : specPrim p path v = some (bs, evs)) : leafEvents p.size v path = evs.map (·.2) ∧ v.isNone = false ∧ v.isList = false := by
  obtain ⟨x, rfl, _, _, _, rfl⟩ := specPrim_inv h
  exact ⟨rfl, rfl, rfl⟩

theorem primList_ok {p : Prim} {path : Path} {n : Nat} {v : Val} {bs : List Byte} {evs : List SEv}
    (h : specPrimList p path n v = some (bs, evs)) : primListEvents p v path = evs.map (·.2) ∧ ∃ vs, v = .list vs := by
  obtain ⟨vs, e, rfl, _, hrep, rfl⟩ := specPrimList_inv h
  refine ⟨?_, vs, rfl⟩
  have := o2eList_ok (leafEvents p.size) (specPrim p) (fun q v b e hq => (leaf_ok hq).1) path vs 0 bs e hrep
  simp [primListEvents, this]

theorem lookupVal_head (n : String) (v : Val) (rest : List (String × Val)) : lookupVal ((n, v) :: rest) n = some v := by
  simp [lookupVal]

theorem lookupVal_second {a b : String} (hne : a ≠ b) (x y : Val) : lookupVal [(a, x), (b, y)] b = some y := by
  simp [lookupVal, hne]

theorem lookupVal_single_ne {want an : String} (av : Val) (h : want ≠ an) : lookupVal [(want, av)] an = none := by
  simp [lookupVal, h]

theorem lookup_append_new (done : List (String × Val)) (n : String) (v : Val) (rest : List (String × Val))
    (h : n ∉ done.map (·.1)) : lookupVal (done ++ (n, v) :: rest) n = some v := by
  induction done with
  | nil => exact lookupVal_head n v rest
  | cons d ds ih =>
    have hd : d.1 ≠ n := by intro e; apply h; simp [e]
    have hds : n ∉ ds.map (·.1) := by intro e; apply h; simp [e]
    have := ih hds
    have hb : (d.1 == n) = false := by simpa using hd
    unfold lookupVal at this ⊢
    rw [List.cons_append, List.find?_cons, hb]
    exact this

/-- a field holding a value proper (not `None`, not a list) yields that value's events -/
theorem o2eFieldWith_value (f : Val → Path → List MEvent) (tag : TyTag) (tname : String) (inUnion : Bool) (kind : FKind)
    (fname : String) {v : Val} (path : Path) (hn : v.isNone = false) (hl : v.isList = false) :
    o2eFieldWith f tag tname inUnion kind fname (some v) path = f v (path ++ [⟨fname, none⟩]) := by
  cases v <;> simp_all [o2eFieldWith, Val.isNone, Val.isList]

/-- a conforming union value: `None` (only where a member carries nothing, and then without events), or an object with
the selected member as its one field -/
theorem specArm_shape : (arms : Arms) → ∀ (un want : String) (path : Path) (v : Val) (bs : List Byte) (evs : List SEv),
    specArm arms un want path v = some (bs, evs) →
    (v = .none ∧ evs = [] ∧ Arms.hasNone arms = true) ∨ ∃ av, v = .obj un false [(want, av)]
  | .nil, _, _, _, _, _, _, h => by simp [specArm] at h
  | .consNone an k rest, un, want, path, v, bs, evs, h => by
    rcases specArm_consNone_inv h with ⟨_, hv, _, he⟩ | ⟨_, h⟩
    · exact Or.inl ⟨hv, he, rfl⟩
    · exact (specArm_shape rest un want path v bs evs h).imp_left fun ⟨a, b, _⟩ => ⟨a, b, rfl⟩
  | .cons an k t rest, un, want, path, v, bs, evs, h => by
    rcases specArm_cons_inv h with ⟨rfl, av, hv, _⟩ | ⟨_, h⟩
    · exact Or.inr ⟨av, hv⟩
    · exact specArm_shape rest un want path v bs evs h
  | .consBytes an k e n rest, un, want, path, v, bs, evs, h => by
    rcases specArm_consBytes_inv h with ⟨rfl, av, c, hv, _⟩ | ⟨_, h⟩
    · exact Or.inr ⟨av, hv⟩
    · exact specArm_shape rest un want path v bs evs h

/-- shape of a conforming value: never a list (lists only occur in counted slots), `None` only for a union whose
selected member carries nothing -/
theorem spec_shape (t : Ty) (path : Path) (sel : Option Int) (v : Val) (bs : List Byte) (evs : List SEv)
    (h : spec t path sel v = some (bs, evs)) : v.isList = false ∧ (v.isNone = true → Ty.nullable t = true) := by
  cases t with
  | prim p =>
    obtain ⟨x, rfl, _⟩ := specPrim_inv (by simpa only [spec] using h)
    exact ⟨rfl, nofun⟩
  | struct name isP fs =>
    obtain ⟨fvs, e, rfl, _⟩ := spec_struct_inv h
    exact ⟨rfl, nofun⟩
  | tpm2bBytes name szName szP bufName elem =>
    obtain ⟨nv, bv, nb, ne, n, bb, be, rfl, _⟩ := spec_tpm2bBytes_inv h
    exact ⟨rfl, nofun⟩
  | tpm2b name szName szP bufName body =>
    obtain ⟨nv, bv, nb, ne, n, rfl, _⟩ := spec_tpm2b_inv h
    exact ⟨rfl, nofun⟩
  | union name arms =>
    obtain ⟨an, e, _, ha, _⟩ := spec_union_inv h
    rcases specArm_shape arms name an path v bs e ha with ⟨rfl, _, hn⟩ | ⟨av, rfl⟩
    · exact ⟨rfl, fun _ => hn⟩
    · exact ⟨rfl, nofun⟩
  | bad r => simp [spec] at h

theorem spec_not_none {t : Ty} (hnu : isUnionTy t = false) {path : Path} {sel : Option Int} {v : Val} {bs : List Byte}
    {evs : List SEv} (h : spec t path sel v = some (bs, evs)) : v.isNone = false := by
  cases hvn : v.isNone with
  | false => rfl
  | true =>
    have hn := (spec_shape t path sel v bs evs h).2 hvn
    cases t <;> simp_all [Ty.nullable, isUnionTy]

theorem o2eV_of_not_none {t : Ty} {v : Val} {path : Path} (h : v.isNone = false) : o2eV t v path = o2e t v path := by
  simp [o2eV, h]

/-- one declared field, given the statement for its type -/
theorem fieldWith_o2e (t : Ty) (fname : String) (kind : FKind) (path : Path) (vals : List (String × Val)) (v : Val)
    (b : List Byte) (e : List SEv)
    (hIH : ∀ p sel v b e, spec t p sel v = some (b, e) → o2eV t v p = e.map (·.2))
    (hskip : (o2eSkip.contains fname && Ty.nullable t) = false) (hcnt : (kind == .counted && isUnionTy t) = false)
    (h : specFieldWith (fun p sel v => spec t p sel v) t.name kind (path ++ [⟨fname, none⟩]) vals v = some (b, e)) :
    o2eFieldWith (fun v p => o2e t v p) t.eventTag t.name false kind fname (some v) path = e.map (·.2) := by
  rcases specFieldWith_inv h with ⟨_, sel, hs⟩ | ⟨rfl, es, ee, rfl, _, hrep, rfl⟩
  · obtain ⟨hl, hn⟩ := spec_shape t _ sel v b e hs
    have := hIH _ sel v b e hs
    cases hvn : v.isNone with
    | true =>
      obtain rfl := isNone_inv hvn
      have hsk : ¬ (fname ∈ o2eSkip) := by simpa [hn rfl] using hskip
      simpa [o2eFieldWith, hsk, o2eV, Val.isNone] using this
    | false =>
      rw [o2eFieldWith_value _ _ _ _ _ _ _ hvn hl, ← o2eV_of_not_none hvn]
      exact this
  · have hnu : isUnionTy t = false := by simpa using hcnt
    have := o2eList_ok (fun v p => o2e t v p) _ (fun p v b e hs => by
      rw [← o2eV_of_not_none (spec_not_none hnu hs)]
      exact hIH p none v b e hs) (path ++ [⟨fname, none⟩]) es 0 b ee hrep
    simp [o2eFieldWith, this]

theorem o2eArms_absent : (arms : Arms) → ∀ (want : String) (av : Val) (path : Path), want ∉ Arms.names arms →
    o2eArms arms [(want, av)] path = []
  | .nil, _, _, _, _ => rfl
  | .consNone an k rest, want, av, path, h => by
    simp only [o2eArms]; exact o2eArms_absent rest want av path (by intro hh; apply h; simp [Arms.names, hh])
  | .cons an k t rest, want, av, path, h => by
    simp only [Arms.names, List.mem_cons, not_or] at h
    simp only [o2eArms, lookupVal_single_ne av h.1, o2eFieldWith, Bool.true_or, if_true, List.nil_append]
    exact o2eArms_absent rest want av path h.2
  | .consBytes an k e n rest, want, av, path, h => by
    simp only [Arms.names, List.mem_cons, not_or] at h
    simp only [o2eArms, lookupVal_single_ne av h.1, List.nil_append]
    exact o2eArms_absent rest want av path h.2

mutual
/-- **C11 (object → events)**: for every layout meeting the side conditions and every conforming value, turning the
object back into events gives exactly the event list the layout dictates for it (same length, paths, declared
types, values, value classes, widths); an absent part is its single marker event -/
theorem c11_obj_to_events : (t : Ty) → Ty.o2eOk t = true → ∀ (path : Path) (sel : Option Int) (v : Val) (bs : List Byte)
    (evs : List SEv), spec t path sel v = some (bs, evs) → o2eV t v path = evs.map (·.2)
  | .prim p, _, path, sel, v, bs, evs, h => by
    simp only [spec] at h
    obtain ⟨h1, h2, _⟩ := leaf_ok h
    simp [o2eV, h2, o2e, h1]
  | .struct name isP fs, hok, path, sel, v, bs, evs, h => by
    obtain ⟨fvs, e, rfl, hf, rfl⟩ := spec_struct_inv h
    simp only [Ty.o2eOk, Bool.and_eq_true, decide_eq_true_eq] at hok
    have := c11_fields fs hok.2 path [] [] fvs bs e hf hok.1 (by simp)
    simp only [List.nil_append] at this
    simp [o2eV, Val.isNone, o2e, objFields, this]
  | .tpm2bBytes name szName szP bufName elem, hok, path, sel, v, bs, evs, h => by
    obtain ⟨nv, bv, nb, ne, n, bb, be, rfl, hsz, _, hbody, _, _, rfl⟩ := spec_tpm2bBytes_inv h
    simp only [Ty.o2eOk, bne_iff_ne, ne_eq] at hok
    obtain ⟨l1, l2, l3⟩ := leaf_ok hsz
    obtain ⟨p1, vs, rfl⟩ := primList_ok hbody
    simp only [o2eV, Val.isNone, Bool.false_eq_true, if_false, o2e, objFields, lookupVal_head, lookupVal_second hok, o2eFieldWith_value _ _ _ _ _ _ _ l2 l3, l1, p1,
      List.map_cons, List.map_append, map_snd_shift]
    simp
  | .tpm2b name szName szP bufName body, hok, path, sel, v, bs, evs, h => by
    obtain ⟨nv, bv, nb, ne, n, rfl, hsz, _, _, hcase⟩ := spec_tpm2b_inv h
    simp only [Ty.o2eOk, Bool.and_eq_true, bne_iff_ne, ne_eq, Bool.not_eq_true'] at hok
    obtain ⟨⟨⟨hne0, hskip⟩, hnu⟩, hbok⟩ := hok
    have hskip' : ¬ (bufName ∈ o2eSkip) := by simpa using hskip
    obtain ⟨l1, l2, l3⟩ := leaf_ok hsz
    have hfields : o2eV (.tpm2b name szName szP bufName body) (.obj name false [(szName, nv), (bufName, bv)]) path =
        ⟨path, .named name false, none, "", 0⟩ :: (ne.map (·.2) ++
          o2eFieldWith (fun v p => o2e body v p) body.eventTag body.name false .plain bufName (some bv) path) := by
      simp only [o2eV, Val.isNone, Bool.false_eq_true, if_false, o2e, objFields, lookupVal_head, lookupVal_second hne0, o2eFieldWith_value _ _ _ _ _ _ _ l2 l3, l1]
    rw [hfields]
    rcases hcase with ⟨_, rfl, _, rfl⟩ | ⟨_, bb, be, hbody, _, _, _, rfl⟩
    · simp [o2eFieldWith, hskip']
    · have ih := c11_obj_to_events body hbok (path ++ [⟨bufName, none⟩]) none bv bb be hbody
      have hbn := spec_not_none hnu hbody
      rw [o2eV_of_not_none hbn] at ih
      rw [o2eFieldWith_value _ _ _ _ _ _ _ hbn (spec_shape body _ none bv bb be hbody).1, ih]
      simp [map_snd_shift]
  | .union name arms, hok, path, sel, v, bs, evs, h => by
    obtain ⟨an, e, _, ha, rfl⟩ := spec_union_inv h
    simp only [Ty.o2eOk, Bool.and_eq_true, decide_eq_true_eq] at hok
    rcases specArm_shape arms name an path v bs e ha with ⟨rfl, rfl, _⟩ | ⟨av, rfl⟩
    · simp [o2eV, Val.isNone, Ty.eventTag, Ty.name]
    · have := c11_arms arms hok.2 name an path av bs e ha hok.1
      simp [o2eV, Val.isNone, o2e, objFields, this]
  | .bad r, _, path, sel, v, bs, evs, h => by simp [spec] at h

theorem c11_arms : (arms : Arms) → Arms.o2eOk arms = true → ∀ (un want : String) (path : Path) (av : Val) (bs : List Byte) (evs : List SEv),
    specArm arms un want path (.obj un false [(want, av)]) = some (bs, evs) → (Arms.names arms).Nodup →
    o2eArms arms [(want, av)] path = evs.map (·.2)
  | .nil, _, un, want, path, av, bs, evs, h, _ => by simp [specArm] at h
  | .consNone an k rest, hok, un, want, path, av, bs, evs, h, hnd => by
    simp only [Arms.names, List.nodup_cons] at hnd
    simp only [Arms.o2eOk] at hok
    rcases specArm_consNone_inv h with ⟨_, hv, _⟩ | ⟨_, h⟩
    · cases hv
    · exact c11_arms rest hok un want path av bs evs h hnd.2
  | .cons an k t rest, hok, un, want, path, av, bs, evs, h, hnd => by
    simp only [Arms.names, List.nodup_cons] at hnd
    simp only [Arms.o2eOk, Bool.and_eq_true, Bool.not_eq_true'] at hok
    obtain ⟨⟨hnu, htok⟩, hrok⟩ := hok
    rcases specArm_cons_inv h with ⟨rfl, av', hv, h⟩ | ⟨hne, h⟩
    · cases hv
      have ih := c11_obj_to_events t htok (path ++ [⟨an, none⟩]) none av bs evs h
      have hbn := spec_not_none hnu h
      rw [o2eV_of_not_none hbn] at ih
      simp only [o2eArms, lookupVal_head,
        o2eFieldWith_value _ _ _ _ _ _ _ hbn (spec_shape t _ none av bs evs h).1, ih, o2eArms_absent rest an av path hnd.1,
        List.append_nil]
    · simp only [o2eArms, lookupVal_single_ne av (Ne.symm hne), o2eFieldWith, Bool.true_or, if_true, List.nil_append]
      exact c11_arms rest hrok un want path av bs evs h hnd.2
  | .consBytes an k el n rest, hok, un, want, path, av, bs, evs, h, hnd => by
    simp only [Arms.names, List.nodup_cons] at hnd
    simp only [Arms.o2eOk] at hok
    rcases specArm_consBytes_inv h with ⟨rfl, av', c, hv, _, h⟩ | ⟨hne, h⟩
    · cases hv
      obtain ⟨p1, vs, rfl⟩ := primList_ok h
      simp only [o2eArms, lookupVal_head, p1, o2eArms_absent rest an _ path hnd.1,
        List.append_nil]
    · simp only [o2eArms, lookupVal_single_ne av (Ne.symm hne), List.nil_append]
      exact c11_arms rest hok un want path av bs evs h hnd.2

theorem c11_fields : (fs : Fields) → Fields.o2eOk fs = true → ∀ (path : Path) (vals done fvs : List (String × Val)) (bs : List Byte)
    (evs : List SEv), specFields fs path vals fvs = some (bs, evs) → fs.names.Nodup → (∀ n ∈ fs.names, n ∉ done.map (·.1)) →
    o2eFields fs (done ++ fvs) path = evs.map (·.2)
  | .nil, _, path, vals, done, fvs, bs, evs, h, _, _ => by
    obtain ⟨_, _, rfl⟩ := specFields_nil_inv h
    rfl
  | .cons fname kind t rest, hok, path, vals, done, fvs, bs, evs, h, hnd, hdone => by
    obtain ⟨v, fvs', b1, e1, b2, e2, rfl, hf, hrest, _, rfl⟩ := specFields_cons_inv h
    simp only [Fields.names, List.nodup_cons] at hnd
    simp only [Fields.o2eOk, Bool.and_eq_true, Bool.not_eq_true'] at hok
    obtain ⟨⟨⟨hskip, hcnt⟩, htok⟩, hrok⟩ := hok
    have hlook : lookupVal (done ++ (fname, v) :: fvs') fname = some v :=
      lookup_append_new done fname v fvs' (hdone fname (by simp [Fields.names]))
    have h1 := fieldWith_o2e t fname kind path vals v b1 e1
      (fun p sel v b e hs => c11_obj_to_events t htok p sel v b e hs) hskip hcnt hf
    have h2 := c11_fields rest hrok path (vals ++ [(fname, v)]) (done ++ [(fname, v)]) fvs' b2 e2 hrest hnd.2 (by
      intro n hn hmem
      simp only [List.map_append, List.map_cons, List.map_nil, List.mem_append, List.mem_singleton] at hmem
      rcases hmem with hmem | rfl
      · exact hdone n (by simp [Fields.names, hn]) hmem
      · exact hnd.1 hn)
    rw [List.append_assoc, List.singleton_append] at h2
    simp only [o2eFields, hlook, h1, h2, List.map_append, map_snd_shift]
end

end C11

namespace C11

/-- end to end, for every layout meeting the side conditions: decoding a well-formed encoding returns the value,
and turning that object back into events reproduces exactly the events the decoder emitted -/
theorem c11_roundtrip (t : Ty) (hok : Ty.o2eOk t = true) (v : Val) (bs : List Byte) (evs : List SEv)
    (h : spec t rootPath none v = some (bs, evs)) (tb : MsgTables) :
    ∃ s, runWalker true tb (.ty t) bs = .ok (v, s) ∧ s.inp = [] ∧
      s.out.map (·.2) = (o2eV t v rootPath).map Event.marshal := by
  refine ⟨_, by simpa using decode_top t v bs evs h [] tb, rfl, ?_⟩
  rw [c11_obj_to_events t hok rootPath none v bs evs h]
  simp [stamp, List.map_map, Function.comp_def]

end C11
