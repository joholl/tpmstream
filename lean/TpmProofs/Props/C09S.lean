import TpmProofs.Shift
import TpmModel.Generated.Cmd
import TpmProofs.StreamSilent
import TpmProofs.PosInp
import TpmProofs.Props.C14S
import TpmProofs.MsgPump
import TpmProofs.WarnNC
import TpmProofs.MsgNoCrash
import TpmProofs.Props.C06
/-!
# C09 — a stream of ARBITRARY messages decodes as its messages decoded one by one (either mode)

`Props/MsgWF.lean` (`c09_stream`) proves the pairing for sequences of *well-formed* exchanges in strict mode.  Here the statement is
freed from well-formedness and from the mode: take any byte strings `c₁, r₁, …, cₙ, rₙ`; decode each command and each response ON
ITS OWN bytes from a fresh state — the response under its command's code and the encrypt flag of its command's sessions (`runMsgs`);
if each of those decodes completes and consumes exactly its bytes (in warn mode that includes malformed messages whose problems
are reported as warnings), then the stream decode of `c₁ r₁ … cₙ rₙ` is the chain of those decodes: the same events in the same
order, stamped with the running offset (region ids inside warnings move along), followed by the clean stop.

From `TpmProofs/Shift.lean`: for every walker, either mode, the run from a state that lies `d` bytes further into a longer input is
the shifted run — unless the run ends for lack of input (`decode_sh`, `decodeCommand_sh`, `decodeResponse_sh`; an equation, proved
like the re-rooting equation).
-/
namespace C09

theorem c09_stream_of_arbitrary_messages (abort : Bool) (msgs : List (List Byte × List Byte)) (pos' : Nat) (out' : List (Nat × Event))
    (h : runMsgs abort Generated.msgTables rootPath msgs 0 [] = some (pos', out')) :
    ∃ scs', runWalker abort Generated.msgTables .stream (flat msgs) =
      .ok (.none, ⟨[], pos', out' ++ [(pos', .marshal ⟨rootPath, .named "Command" false, none, "", 0⟩)], scs'⟩) := by
  have hlen : msgs.length < (flat msgs).length + 1 := Nat.lt_succ_of_le (runMsgs_length _ _ _ msgs 0 [] pos' out' h)
  obtain ⟨scs', hs⟩ := stream_is_chain abort Generated.msgTables rootPath msgs 0 [] [] pos' out' h ((flat msgs).length + 1) hlen
  exact ⟨scs', by simpa [runWalker, initSt] using hs⟩

/-- not vacuous (kernel-evaluated): a Startup command with an out-of-range `startupType` and its response, in warn mode — a malformed
exchange that `c09_stream` does not cover — chain -/
example : (runMsgs false Generated.msgTables rootPath
    [([0x80, 0x01, 0, 0, 0, 0x0c, 0, 0, 0x01, 0x44, 0, 0x42], [0x80, 0x01, 0, 0, 0, 0x0a, 0, 0, 0, 0])] 0 []).isSome = true := by
  decide +kernel

end C09

/-! ### what the consumer of `Binary.marshal` sees: the chain, then a clean end -/

namespace C09

theorem decodeCommand_head (abort : Bool) (tb : MsgTables) (path : Path) (s0 : St) :
    Grow (emitM ⟨path, .named "Command" false, none, "", 0⟩ { s0 with scs := [⟨s0.pos, [], 0, none⟩] }) (decodeCommand abort tb path s0) := by
  rw [decodeCommand_eq_run]; exact Prog.run_inv ((grow_walkInv abort tb).msg ..) Prog.cmdBody _

theorem decodeResponse_head (abort : Bool) (tb : MsgTables) (cc : Option Int) (enc : Bool) (path : Path) (s0 : St) :
    Grow (emitM ⟨path, .named "Response" false, none, "", 0⟩ { s0 with scs := [⟨s0.pos, [], 0, none⟩] }) (decodeResponse abort tb cc enc path s0) := by
  rw [decodeResponse_eq_run]; exact Prog.run_inv ((grow_walkInv abort tb).msg ..) (Prog.rspBody cc enc) _

/-- in the trace of one message decoded on its own, the only root event is the first one, stamped 0 -/
theorem roots0 {r : R Val} {x : List Byte} {ev : MEvent} {scs : List SC}
    (hgm : Tr (GM1 C14.ClassOk rootPath) (initSt x) r) (hhead : Grow (emitM ev { initSt x with scs := scs }) r) :
    RootsAt 0 (stOf r).out := by
  obtain ⟨new, o1, _, m0, E', hE, _, hrest⟩ := hgm
  obtain ⟨more, o2⟩ := hhead
  simp only [initSt, List.nil_append] at o1
  simp only [emitM, emit, initSt, List.nil_append] at o2
  rw [o1] at o2 ⊢
  intro ke hke hroot
  rw [o2] at hke
  rcases List.mem_cons.mp hke with rfl | hke
  · rfl
  · exfalso
    obtain ⟨k, e⟩ := ke
    cases e with
    | warning w => simp [isRootEllipsis] at hroot
    | marshal m =>
      have hmem : Event.marshal m ∈ E' := by
        have : new.map (·.2) = Event.marshal ev :: more.map (·.2) := by rw [o2]; rfl
        rw [this] at hE
        simp only [List.cons.injEq] at hE
        rw [← hE.2]
        exact List.mem_map_of_mem (f := (·.2)) hke
      simp only [isRootEllipsis, Bool.and_eq_true, beq_iff_eq] at hroot
      exact hrest m hmem hroot.1

theorem shOut_roots {p : Nat} {o : List (Nat × Event)} (h : RootsAt 0 o) : RootsAt p (shOut p o) := by
  intro ke hke hroot
  simp only [shOut, List.mem_map] at hke
  obtain ⟨ke0, hk0, rfl⟩ := hke
  have : isRootEllipsis ke0.2 = true := by
    cases he : ke0.2 with
    | warning w => simp [he, shEv, isRootEllipsis] at hroot
    | marshal m => simpa [he, shEv] using hroot
  simp [h ke0 hk0 this]

/-- a decode of `x` on its own that leaves no input ends at position `x.length` -/
theorem pos_of_whole {α : Type} {x : List Byte} {a : α} {t : St} (h : PI (initSt x) (.ok (a, t) : R α)) (ht : t.inp = []) :
    t.pos = x.length := by
  simpa [PI, stOf, initSt, ht] using h

/-- the chain ends at the end of the input, and no root event inside it is stamped with the end of the input -/
theorem chain_inv (abort : Bool) : ∀ (msgs : List (List Byte × List Byte)) (pos : Nat) (out : List (Nat × Event)) (pos' : Nat)
    (out' : List (Nat × Event)), runMsgs abort Generated.msgTables rootPath msgs pos out = some (pos', out') →
    pos' = pos + (flat msgs).length ∧ (NoRootAt (pos + (flat msgs).length) out → NoRootAt pos' out') := by
  intro msgs
  induction msgs with
  | nil =>
    intro pos out pos' out' h
    simp only [runMsgs, Option.some.injEq, Prod.mk.injEq] at h
    obtain ⟨rfl, rfl⟩ := h
    exact ⟨by simp [flat], fun hn => by simpa [flat] using hn⟩
  | cons cr rest ih =>
    intro pos out pos' out' h
    obtain ⟨c, r⟩ := cr
    obtain ⟨hc, hr, cv, tc, enc, rv, tr, hcmd, htc', henc, hrsp, htr', h⟩ := runMsgs_cons h
    have hcpos : tc.pos = c.length := pos_of_whole (hcmd ▸ decodeCommand_pi abort Generated.msgTables rootPath (initSt c)) htc'
    have hrpos : tr.pos = r.length := pos_of_whole (hrsp ▸ decodeResponse_pi abort Generated.msgTables _ enc rootPath (initSt r)) htr'
    have hc0 : 0 < c.length := by cases c with | nil => cases hc | cons a t => simp
    have hr0 : 0 < r.length := by cases r with | nil => cases hr | cons a t => simp
    have hflat : (flat ((c, r) :: rest)).length = c.length + r.length + (flat rest).length := by
      simp [flat, Nat.add_assoc]
    obtain ⟨hp, hn⟩ := ih _ _ _ _ h
    refine ⟨by rw [hp, hcpos, hrpos, hflat]; omega, fun hno => ?_⟩
    have hL : pos + tc.pos + tr.pos + (flat rest).length = pos + (flat ((c, r) :: rest)).length := by
      rw [hcpos, hrpos, hflat]; omega
    have hcr : RootsAt 0 tc.out := by
      have h1 := decodeCommand_gd abort (C14.class_link abort) Generated.msgTables C04.c04_tables.1 rootPath (initSt c)
      have h2 := decodeCommand_head abort Generated.msgTables rootPath (initSt c)
      rw [hcmd] at h1 h2
      exact roots0 h1 h2
    have hrr : RootsAt 0 tr.out := by
      have h1 := decodeResponse_gd abort (C14.class_link abort) Generated.msgTables C04.c04_tables.1
        ((objField cv "commandCode").bind vInt) enc rootPath (initSt r)
      have h2 := decodeResponse_head abort Generated.msgTables ((objField cv "commandCode").bind vInt) enc rootPath (initSt r)
      rw [hrsp] at h1 h2
      exact roots0 h1 h2
    apply hn
    rw [hL]
    exact (hno.append (NoRootAt.of_roots (shOut_roots hcr) (by omega))).append
      (NoRootAt.of_roots (shOut_roots hrr) (by rw [hcpos]; omega))

/-- **what `Binary.marshal` shows for a stream of arbitrary messages, either mode**: exactly the chain of the messages' own events
(with the pump's pull counts), then a clean end -/
theorem c09_stream_run (abort : Bool) (msgs : List (List Byte × List Byte)) (pos' : Nat) (out' : List (Nat × Event))
    (h : runMsgs abort Generated.msgTables rootPath msgs 0 [] = some (pos', out')) :
    (marshalRun abort Generated.msgTables .stream (flat msgs)).events = shown (flat msgs).length out' ∧
    (marshalRun abort Generated.msgTables .stream (flat msgs)).outcome = .silent := by
  obtain ⟨scs', hw⟩ := c09_stream_of_arbitrary_messages abort msgs pos' out' h
  obtain ⟨hp, hn⟩ := chain_inv abort msgs 0 [] pos' out' h
  simp only [Nat.zero_add] at hp hn
  have hno : NoRootAt pos' out' := hn (by intro ke hke; cases hke)
  subst hp
  rw [marshalRun_stop abort Generated.msgTables (flat msgs) out' _ (by rw [hw]; rfl) ?_ (by simp [isRootEllipsis, rootPath])]
  · exact ⟨rfl, rfl⟩
  · intro ke hke
    by_cases hr : isRootEllipsis ke.2 = true
    · have : (ke.1 == (flat msgs).length) = false := by simpa using Nat.ne_of_lt (hno ke hke hr)
      simp [this]
    · simp [hr]

end C09

/-! ### the first message whose own decode fails decides the stream -/

namespace C09

/-- **a stream is decoded message by message up to and including the first message that fails (command)**: after any exchanges
that decode on their own, a command whose own decode ends in an error other than running out of input makes the stream decode end in
exactly that error (paths as they are, region ids moved by the offset), with the chain's events followed by that command's own
events — whatever bytes follow the command -/
theorem c09_first_failing_command (abort : Bool) (msgs : List (List Byte × List Byte)) (c y : List Byte) (pos' : Nat)
    (out' : List (Nat × Event)) (h : runMsgs abort Generated.msgTables rootPath msgs 0 [] = some (pos', out'))
    (e : Err) (t : St) (hc : decodeCommand abort Generated.msgTables rootPath (initSt c) = .error (e, t)) (hnd : e ≠ .depleted)
    (hne : c ≠ []) :
    ∃ t', runWalker abort Generated.msgTables .stream (flat msgs ++ (c ++ y)) = .error (shErr pos' e, t') ∧
      t'.out = out' ++ shOut pos' t.out := by
  simpa [runWalker] using stream_fails_at_command abort Generated.msgTables rootPath msgs c y pos' out' h e t hc hnd hne

/-- … and for a response (decoded under its command's code and encrypt flag) -/
theorem c09_first_failing_response (abort : Bool) (msgs : List (List Byte × List Byte)) (c r y : List Byte) (pos' : Nat)
    (out' : List (Nat × Event)) (h : runMsgs abort Generated.msgTables rootPath msgs 0 [] = some (pos', out'))
    (cv : Val) (tc : St) (hc : decodeCommand abort Generated.msgTables rootPath (initSt c) = .ok (cv, tc)) (htc : tc.inp = [])
    (hne : c ≠ []) (enc : Bool) (henc : cmdEncrypt Generated.msgTables cv = .ok enc) (e : Err) (t : St)
    (hr : decodeResponse abort Generated.msgTables ((objField cv "commandCode").bind vInt) enc rootPath (initSt r) = .error (e, t))
    (hnd : e ≠ .depleted) (hner : r ≠ []) :
    ∃ t', runWalker abort Generated.msgTables .stream (flat msgs ++ (c ++ (r ++ y))) = .error (shErr (tc.pos + pos') e, t') ∧
      t'.out = out' ++ shOut pos' tc.out ++ shOut (tc.pos + pos') t.out := by
  simpa [runWalker] using
    stream_fails_at_response abort Generated.msgTables rootPath msgs c r y pos' out' h cv tc hc htc hne enc henc e t hr hnd hner

/-- not vacuous (kernel-evaluated): in strict mode the Startup command with `startupType = 0x42` fails on its own with a value error -/
example : (match decodeCommand true Generated.msgTables rootPath (initSt [0x80, 0x01, 0, 0, 0, 0x0c, 0, 0, 0x01, 0x44, 0, 0x42]) with
    | .error (.value _ _ _, _) => true
    | _ => false) = true := by
  decide +kernel

end C09

/-! ### every stream, no hypothesis -/

namespace C09

/-- **C09 for EVERY input, either mode**: the stream decode of any byte string — well-formed or not, complete or cut short, whatever
its outcome — is the iteration of its messages' own decodes (`iterMsgs`, TpmProofs/Shift.lean): the next command decoded on its own
from a fresh state on the remaining input, its response decoded on its own on what the command left, under the command's code and
the encrypt flag of the command's sessions, and so on — same outcome, same final position, same events in the same order (stamps,
and region ids inside warnings and errors, moved to where the message stands).  Message boundaries are what each decode leaves. -/
theorem c09_every_stream (abort : Bool) (x : List Byte) :
    projR (runWalker abort Generated.msgTables .stream x) = iterMsgs abort Generated.msgTables rootPath (x.length + 1) x 0 [] := by
  simpa [runWalker, initSt] using stream_is_iteration abort Generated.msgTables rootPath (x.length + 1) x 0 [] []

/-- not vacuous, and the iteration computes (kernel-evaluated): a Startup exchange followed by a command cut short after its tag ends
`depleted` at offset 24 in strict mode -/
example : (match iterMsgs true Generated.msgTables rootPath 30
      [0x80, 0x01, 0, 0, 0, 0x0c, 0, 0, 0x01, 0x44, 0, 0, 0x80, 0x01, 0, 0, 0, 0x0a, 0, 0, 0, 0, 0x80, 0x01] 0 [] with
    | .error (.depleted, p, _) => p
    | _ => 0) = 24 := by
  decide +kernel

end C09

/-! ### … and what the consumer of `Binary.marshal` sees of it -/

namespace C09

/-- the byte pump on what a run shows (outcome, final position, trace); a stream decode that completes returns no value -/
def pumpP (x : List Byte) (p : Except (Err × Nat × List (Nat × Event)) (Nat × List (Nat × Event))) : Run :=
  match p with
  | .ok (pos, out) =>
    let pe := pumpEvents true x.length out [] none
    ⟨pe.1, if pe.2.2 then .silent else pumpOutcome x pos (.ok .none), pe.2.1⟩
  | .error (e, pos, out) =>
    let pe := pumpEvents true x.length out [] none
    ⟨pe.1, if pe.2.2 then .silent else pumpOutcome x pos (.error e), pe.2.1⟩

theorem decodeStream_none (abort : Bool) (tb : MsgTables) (path : Path) :
    ∀ (fuel : Nat) (s : St) (v : Val) (t : St), decodeStream abort tb path fuel s = .ok (v, t) → v = .none := by
  intro fuel
  induction fuel with
  | zero => intro s v t h; simp [decodeStream, crash] at h
  | succ n ih =>
    intro s v t h
    rw [decodeStream] at h
    split at h
    · simp only [Except.ok.injEq, Prod.mk.injEq] at h; exact h.1.symm
    · cases hc : decodeCommand abort tb path s with
      | error e => rw [hc] at h; simp [R.bind] at h
      | ok ct =>
        obtain ⟨cmd, s1⟩ := ct
        rw [hc] at h
        simp only [R.bind_ok] at h
        split at h
        · simp [crash] at h
        · split at h
          · simp only [Except.ok.injEq, Prod.mk.injEq] at h; exact h.1.symm
          · cases hr : decodeResponse abort tb ((objField cmd "commandCode").bind vInt) _ path s1 with
            | error e => rw [hr] at h; simp [R.bind] at h
            | ok rt =>
              obtain ⟨rv, s2⟩ := rt
              rw [hr] at h
              simp only [R.bind_ok] at h
              exact ih _ _ _ h

/-- **what `Binary.marshal` shows for EVERY stream input, either mode**: the byte pump applied to the iteration of the messages' own
decodes — events with their pull counts, outcome (clean end, depleted, an error of a message moved to where it stands), command code -/
theorem c09_every_stream_run (abort : Bool) (x : List Byte) :
    marshalRun abort Generated.msgTables .stream x = pumpP x (iterMsgs abort Generated.msgTables rootPath (x.length + 1) x 0 []) := by
  rw [← c09_every_stream, marshalRun]
  cases h : runWalker abort Generated.msgTables .stream x with
  | error es => rfl
  | ok vs =>
    obtain ⟨v, s⟩ := vs
    cases decodeStream_none abort Generated.msgTables rootPath _ _ _ _ h
    rfl

end C09

namespace C09

/-- the iteration never runs out of fuel and never ends in an internal error of its own: the only internal error it can report is
the known assertion of `process_response` (either mode, every input) — so `c09_every_stream` describes every stream decode by
outcomes the decoder documents -/
theorem c09_iteration_total (abort : Bool) (x : List Byte) (c m : String) (p : Nat) (o : List (Nat × Event))
    (h : iterMsgs abort Generated.msgTables rootPath (x.length + 1) x 0 [] = .error (.crash c m, p, o)) : isMismatch c m := by
  rw [← c09_every_stream] at h
  have hncx : NCX (runWalker abort Generated.msgTables .stream x) := by
    unfold runWalker
    cases abort with
    | true => exact decodeStream_ncx Generated.msgTables C06.c06_msg_tables.1 C06.c06_msg_tables.2 rootPath _ _ (by simp [initSt])
    | false => exact decodeStream_ncxw Generated.msgTables C06.c06_msg_tables.1 rootPath _ _ (by simp [initSt])
  cases hr : runWalker abort Generated.msgTables .stream x with
  | ok vs => rw [hr] at h; obtain ⟨v, s⟩ := vs; simp [projR] at h
  | error es =>
    obtain ⟨e, s⟩ := es
    rw [hr] at h
    simp only [projR, Except.error.injEq, Prod.mk.injEq] at h
    exact hncx c m s (by rw [hr, h.1])

end C09
