import TpmProofs.DecodeSound
import TpmProofs.Trace
import TpmProofs.MsgOk
import TpmProofs.MsgSound
/-!
# Warn mode keeps decoding: no size error ever escapes its region's owner (C08)

`WI s r`: `r` is the result of a warn-mode step from state `s`.
* the position never moves backwards;
* if the step succeeds, the open regions afterwards are the same regions (same ids, same limits, same order) —
  whatever was opened inside has been closed or has ended with an overrun of its own;
* if it stops, then with `depleted`, with a value error (the two sites after which the layout is unknowable), with an
  internal error, or with `exceeded` for a region `c` that was open when the step began — and then the regions left are
  exactly the ones outside `c`.  Never with `subceeded` or `anticipated` (those are warnings in this mode).
Each owner catches the `exceeded` of its own region, so at top level nothing of the kind is left.

Message level: `WM r` (what may leave a message walker).  The two walkers are stepped through their programs with `Msg c mx s`
(between two steps the only region is the message's own, with limit `mx`), `Step` (what the message's `except` needs of the step
it guards) and `Ends E Q r` (a success satisfies `Q`, an error `E`).
-/

/-- region `cid` is one of the regions `scs` open at the start; `left`, the regions left over, are those outside it -/
def ExcOf (scs : List SC) (left : List SC) (cid : Nat) : Prop :=
  ∃ pre c post, scs = pre ++ c :: post ∧ c.id = cid ∧ sig left = sig pre

def Err.isValueErr : Err → Bool
  | .value _ _ _ => true
  | .valueNone _ _ => true
  | _ => false

def WErr (scs : List SC) (e : Err) (t : St) : Prop :=
  e = .depleted ∨ e.isValueErr = true ∨ (∃ c m, e = .crash c m) ∨
  (∃ cid cp m a v b, e = .exceeded cid cp m a v b ∧ ExcOf scs t.scs cid)

def WI {α : Type} (s : St) (r : R α) : Prop :=
  s.pos ≤ (stOf r).pos ∧
  match r with
  | .ok (_, t) => sig t.scs = sig s.scs
  | .error (e, t) => WErr s.scs e t

theorem sig_mem {l1 l2 : List SC} (h : sig l1 = sig l2) {d : SC} (hd : d ∈ l1) : ∃ d0 ∈ l2, d0.id = d.id := by
  have : (d.id, d.max) ∈ sig l2 := h ▸ List.mem_map.mpr ⟨d, hd, rfl⟩
  obtain ⟨d0, hd0, he⟩ := List.mem_map.mp this
  exact ⟨d0, hd0, (Prod.mk.inj he).1⟩

theorem ExcOf.transfer {l1 l2 left : List SC} {cid : Nat} (h : sig l1 = sig l2) (he : ExcOf l1 left cid) : ExcOf l2 left cid := by
  obtain ⟨pre, c, post, rfl, hc, hl⟩ := he
  obtain ⟨pre', r, rfl, hp, hr⟩ := List.map_eq_append_iff.mp (h.symm.trans (sig_append pre (c :: post)))
  obtain ⟨c', post', rfl, hc', _⟩ := List.map_eq_cons_iff.mp hr
  exact ⟨pre', c', post', rfl, (Prod.mk.inj hc').1.trans hc, hl.trans hp.symm⟩

theorem WErr.transfer {l1 l2 : List SC} {e : Err} {t : St} (h : sig l1 = sig l2) (he : WErr l1 e t) : WErr l2 e t :=
  he.imp_right <| Or.imp_right <| Or.imp_right fun ⟨cid, cp, m, a, v, b, he, hx⟩ => ⟨cid, cp, m, a, v, b, he, hx.transfer h⟩

theorem WI.ok {α : Type} (s : St) (a : α) : WI s (.ok (a, s) : R α) := ⟨Nat.le_refl _, rfl⟩

theorem WI.after {α : Type} {s t : St} {r : R α} (hp : s.pos ≤ t.pos) (hs : sig t.scs = sig s.scs) (h : WI t r) : WI s r := by
  refine ⟨Nat.le_trans hp h.1, ?_⟩
  cases r with
  | ok bt => exact h.2.trans hs
  | error et => exact h.2.transfer hs

theorem WI.bind {α β : Type} {s : St} {r : R α} {f : α → St → R β} (h : WI s r)
    (hf : ∀ a t, r = .ok (a, t) → WI t (f a t)) : WI s (r.bind f) := by
  cases r with
  | error e => exact h
  | ok at' => obtain ⟨a, t⟩ := at'; exact WI.after h.1 h.2 (hf a t rfl)

theorem WI.crash {α : Type} (s : St) (c m : String) : WI s (crash c m s : R α) :=
  ⟨Nat.le_refl _, Or.inr (Or.inr (Or.inl ⟨c, m, rfl⟩))⟩

theorem WI.of_emit {α : Type} {s : St} (e : Event) {r : R α} (h : WI (emit e s) r) : WI s r := h


theorem take_wi (n : Nat) (s : St) : WI s (take n s) := by
  unfold take
  split
  · exact ⟨by simp [stOf], Or.inl rfl⟩
  · exact ⟨by simp [stOf], rfl⟩

theorem consume_wi (n : Nat) (s : St) : WI s (consume n s) := by
  unfold consume; exact (take_wi n s).bind fun _ t _ => WI.ok t _

theorem bpGo_wi (path : Path) (size : Nat) : ∀ (todo done : List SC) (s : St),
    s.pos ≤ (stOf (bpGo path size done todo s)).pos ∧
    match bpGo path size done todo s with
    | .ok (_, t) => t.scs = done ++ bump todo size
    | .error (e, t) => e = .depleted ∨ ∃ cid cp m a v b pre c post, e = .exceeded cid cp m a v b ∧
        todo = pre ++ c :: post ∧ c.id = cid ∧ sig t.scs = sig (done ++ pre) := by
  intro todo done s
  rcases bpGo_cases path size todo done with h | ⟨pre, c, post, rfl, _, h⟩
  · rw [h]; exact ⟨Nat.le_refl _, rfl⟩
  · rw [h, consume_eq]
    split
    · exact ⟨Nat.le_add_right _ _, Or.inl rfl⟩
    · exact ⟨Nat.le_add_right _ _, Or.inr ⟨_, _, _, _, _, _, pre, c, post, rfl, rfl, rfl,
        by simp [sig, bump, SC.bump, List.map_map, Function.comp_def]⟩⟩

theorem bytesParsed_wi (path : Path) (size : Nat) (s : St) : WI s (bytesParsed path size s) := by
  obtain ⟨hp, hr⟩ := bpGo_wi path size s.scs [] s
  refine ⟨hp, ?_⟩
  unfold bytesParsed
  cases hb : bpGo path size [] s.scs s with
  | ok ut =>
    obtain ⟨_, t⟩ := ut
    rw [hb] at hr
    simp only [] at hr ⊢
    rw [hr]; simp [sig_bump]
  | error et =>
    obtain ⟨e, t⟩ := et
    rw [hb] at hr
    simp only [] at hr ⊢
    rcases hr with hr | ⟨cid, cp, m, a, v, b, pre, c', post, he, htodo, hcid, hsig⟩
    · exact Or.inl hr
    · exact Or.inr (Or.inr (Or.inr ⟨cid, cp, m, a, v, b, he, pre, c', post, htodo, hcid, by simpa using hsig⟩))

theorem readPrim_wi (p : Prim) (path : Path) (s : St) : WI s (readPrim false p path s) := by
  unfold readPrim
  refine (bytesParsed_wi path p.size s).bind fun _ t _ => (take_wi p.size t).bind fun bs t2 _ => ?_
  simp only [Bool.false_eq_true, if_false]
  split <;> exact ⟨Nat.le_refl _, rfl⟩

theorem anticipateM_wi (vpath : Path) (v id : Nat) (s : St) : WI s (anticipateM false vpath v id s) := by
  unfold anticipateM
  split
  · exact WI.ok _ _
  · simp only [Bool.false_eq_true, if_false]; exact ⟨Nat.le_refl _, rfl⟩

/-! ## regions and their owners -/

theorem openRegion_warn (id : Nat) (cpath : Path) (n : Nat) (s : St) :
    ∃ t, openRegion false id cpath n s = .ok ((), t) ∧ t.scs = s.scs ++ [⟨id, cpath, 0, some n⟩] ∧ t.pos = s.pos := by
  unfold openRegion anticipateM
  split
  · exact ⟨_, rfl, rfl, rfl⟩
  · simp only [Bool.false_eq_true, if_false, R.bind_ok]
    exact ⟨_, rfl, rfl, rfl⟩

theorem snoc_split {α : Type} {l pre post : List α} {x c : α} (h : l ++ [x] = pre ++ c :: post) :
    (post = [] ∧ pre = l ∧ c = x) ∨ (∃ post', post = post' ++ [x] ∧ l = pre ++ c :: post') := by
  rcases List.eq_nil_or_concat post with rfl | ⟨post', y, rfl⟩
  · obtain ⟨h1, h2⟩ := List.append_inj' h rfl
    exact Or.inl ⟨rfl, h1.symm, (List.cons.inj h2).1.symm⟩
  · rw [List.concat_eq_append, ← List.cons_append, ← List.append_assoc] at h
    obtain ⟨h1, h2⟩ := List.append_inj' h rfl
    exact Or.inr ⟨post', by rw [List.concat_eq_append, (List.cons.inj h2).1], h1⟩

/-- which region an overrun inside the freshly opened region `x` names: `x` itself, and then the regions `pre` around it are
left, or one of `pre` -/
theorem snoc_region {pre : List SC} {x : SC} {cid : Nat} {P : List SC → Prop} (hx : ∀ d ∈ pre, d.id ≠ x.id)
    (h : ∃ p c post, pre ++ [x] = p ++ c :: post ∧ c.id = cid ∧ P p) :
    (cid = x.id ∧ P pre) ∨ (cid ≠ x.id ∧ ∃ p c post, pre = p ++ c :: post ∧ c.id = cid ∧ P p) := by
  obtain ⟨p, c, post, hdec, hcid, hP⟩ := h
  rcases snoc_split hdec with ⟨_, rfl, rfl⟩ | ⟨post', _, hl⟩
  · exact Or.inl ⟨hcid.symm, hP⟩
  · exact Or.inr ⟨fun he => hx c (by rw [hl]; simp) (hcid.trans he), p, c, post', hl, hcid, hP⟩

theorem assertDoneSC_wi (c : SC) (s : St) : WI s (assertDoneSC false c s) := by
  unfold assertDoneSC
  split
  · exact WI.crash _ _ _
  · split
    · exact WI.ok _ _
    · simp only [Bool.false_eq_true, if_false]
      apply WI.of_emit
      split
      · exact (bytesParsed_wi _ _ _).bind fun _ t _ => consume_wi _ t
      · exact WI.ok _ _

theorem ids_ne_of_sig {l1 l2 : List SC} (h : sig l1 = sig l2) {id : Nat} (h2 : ∀ d ∈ l2, d.id ≠ id) : ∀ d ∈ l1, d.id ≠ id := by
  intro d hd
  obtain ⟨d0, hd0, he⟩ := sig_mem h hd
  exact he ▸ h2 d0 hd0

theorem assertDone_last {id : Nat} {pre : List SC} {c : SC} {s : St} (hs : s.scs = pre ++ [c]) (hid : c.id = id)
    (hpre : ∀ d ∈ pre, d.id ≠ id) : assertDone false id s = assertDoneSC false c { s with scs := pre } := by
  unfold assertDone
  rw [hs, findSC_last id pre c hid hpre, removeSC_last id pre c hid hpre]

theorem ownCatch_pass {id : Nat} {r : R Val} {k : Val → St → R Val}
    (h : ∀ cp m a v b t, r ≠ .error (.exceeded id cp m a v b, t)) : ownCatch false id r k = r.bind k := by
  cases r with
  | ok vs => rfl
  | error es =>
    obtain ⟨e, t⟩ := es
    cases e with
    | exceeded cid cp m a v b =>
      by_cases hc : cid = id
      · subst hc; exact absurd rfl (h cp m a v b t)
      · have hb : (cid != id) = true := by simpa using hc
        simp [ownCatch, hb, R.bind]
    | _ => rfl

theorem WErr.unsnoc {scs : List SC} {x : SC} {e : Err} {t : St} (h : WErr (scs ++ [x]) e t) (hx : ∀ d ∈ scs, d.id ≠ x.id) :
    (∃ cp m a v b, e = .exceeded x.id cp m a v b ∧ sig t.scs = sig scs) ∨
      (WErr scs e t ∧ ∀ cp m a v b, e ≠ .exceeded x.id cp m a v b) := by
  rcases h with rfl | hv | ⟨c, m, rfl⟩ | ⟨cid, cp, m, a, v, b, rfl, hex⟩
  · exact Or.inr ⟨Or.inl rfl, fun _ _ _ _ _ h => nomatch h⟩
  · exact Or.inr ⟨Or.inr (Or.inl hv), fun _ _ _ _ _ h => by subst h; cases hv⟩
  · exact Or.inr ⟨Or.inr (Or.inr (Or.inl ⟨c, m, rfl⟩)), fun _ _ _ _ _ h => nomatch h⟩
  · rcases snoc_region hx hex with ⟨rfl, hsig⟩ | ⟨hne, hex'⟩
    · exact Or.inl ⟨cp, m, a, v, b, rfl, hsig⟩
    · exact Or.inr ⟨Or.inr (Or.inr (Or.inr ⟨cid, cp, m, a, v, b, rfl, hex'⟩)), fun _ _ _ _ _ h => hne (by cases h; rfl)⟩

/-- the `except` of the owner of region `x`, the last one opened, around a step `r` made inside `x` -/
theorem WI.own {s : St} {pre : List SC} {x : SC} {r : R Val} {k : Val → St → R Val} (hr : WI s r) (hs : s.scs = pre ++ [x])
    (hx : ∀ d ∈ pre, d.id ≠ x.id)
    (hk : ∀ v t pre' x', r = .ok (v, t) → t.scs = pre' ++ [x'] → x'.id = x.id → (∀ d ∈ pre', d.id ≠ x.id) →
      WI { t with scs := pre' } (k v t)) :
    WI { s with scs := pre } (ownCatch false x.id r k) := by
  obtain ⟨hp, hm⟩ := hr
  cases r with
  | ok vt =>
    obtain ⟨v, t⟩ := vt
    rw [hs, sig_append] at hm
    obtain ⟨pre', r, hl, hsp, hr⟩ := List.map_eq_append_iff.mp hm
    obtain ⟨x', rfl, hc⟩ := List.map_eq_singleton_iff.mp hr
    exact WI.after (t := { t with scs := pre' }) hp hsp
      (hk v t pre' x' rfl hl (Prod.mk.inj hc).1 (ids_ne_of_sig hsp hx))
  | error et =>
    obtain ⟨e, t⟩ := et
    rw [hs] at hm
    rcases hm.unsnoc hx with ⟨cp, m, a, v, b, rfl, hsig⟩ | ⟨hw, hne⟩
    · simp only [ownCatch, Bool.false_or, bne_self_eq_false, Bool.false_eq_true, if_false]
      exact ⟨hp, hsig⟩
    · rw [ownCatch_pass fun cp m a v b t' h => hne cp m a v b (by cases h; rfl)]
      exact ⟨hp, hw⟩

/-- the owner of region `id`: body inside the region, then `assert_done`, with the owner's `except` around the body -/
theorem owner_wi {s1 s2 : St} {id : Nat} {cpath : Path} {n : Nat} (hs2 : s2.scs = s1.scs ++ [⟨id, cpath, 0, some n⟩])
    (hpos : s2.pos = s1.pos) (hfresh : ∀ d ∈ s1.scs, d.id ≠ id) {r : R Val} (hr : WI s2 r) (g : Val → Val) :
    WI s1 (ownCatch false id r fun bv s => (assertDone false id s).bind fun _ s => .ok (g bv, s)) := by
  have h := hr.own hs2 hfresh (k := fun bv s => (assertDone false id s).bind fun _ s => .ok (g bv, s))
    fun bv t pre' x' _ hl hid hne => by
      rw [assertDone_last hl hid hne]
      exact (assertDoneSC_wi x' _).bind fun _ t' _ => WI.ok _ _
  exact ⟨hpos ▸ h.1, h.2⟩

theorem WI.fresh {α : Type} {s t : St} {a : α} (h : WI s (.ok (a, t) : R α)) (hf : Fresh s.scs s.pos) : Fresh t.scs t.pos := by
  intro d hd
  obtain ⟨d0, hd0, he⟩ := sig_mem h.2 hd
  have := hf d0 hd0
  have := h.1
  simp only [stOf] at this
  omega

theorem repeatDec_wi (f : Path → St → R Val) (hf : ∀ p s, Fresh s.scs s.pos → WI s (f p s)) (path : Path) :
    ∀ (n i : Nat) (s : St), Fresh s.scs s.pos → WI s (repeatDec f path n i s) := by
  intro n
  induction n with
  | zero => intro i s _; exact WI.ok _ _
  | succ m ih =>
    intro i s hfr
    unfold repeatDec
    refine (hf _ s hfr).bind fun v t ht => ?_
    exact (ih (i+1) t (WI.fresh (ht ▸ hf _ s hfr) hfr)).bind fun vs t2 _ => WI.ok _ _

theorem readPrimList_wi (p : Prim) (path : Path) (n : Nat) (s : St) (hfr : Fresh s.scs s.pos) :
    WI s (readPrimList false p path n s) := by
  unfold readPrimList
  apply WI.of_emit
  exact (repeatDec_wi _ (fun q s _ => readPrim_wi p q s) path n 0 _ (by simpa [emitM, emit] using hfr)).bind fun vs t _ => WI.ok _ _

theorem readListArm_wi (elem : Prim) (n : Option Nat) (path : Path) (s : St) (hfr : Fresh s.scs s.pos) :
    WI s (readListArm false elem n path s) := by
  unfold readListArm
  cases n with
  | none => exact WI.crash _ _ _
  | some k => exact readPrimList_wi elem path k s hfr

theorem fieldWith_wi (d : Path → Option Int → St → R Val) (hd : ∀ p sel s, Fresh s.scs s.pos → WI s (d p sel s))
    (tname : String) (kind : FKind) (fpath : Path) (vals : List (String × Val)) (s : St) (hfr : Fresh s.scs s.pos) :
    WI s (decodeFieldWith d tname kind fpath vals s) := by
  cases kind with
  | plain => exact hd _ _ _ hfr
  | selected sel =>
    simp only [decodeFieldWith]
    split
    · exact WI.crash _ _ _
    · exact hd _ _ _ hfr
  | counted =>
    simp only [decodeFieldWith]
    split
    · exact WI.crash _ _ _
    · apply WI.of_emit
      exact (repeatDec_wi _ (fun p s hf => hd p none s hf) fpath _ 0 _ (by simpa [emitM, emit] using hfr)).bind
        fun vs t _ => WI.ok _ _

theorem readPrim_warn_ok {p : Prim} {path : Path} {s t : St} {v : Val} (h : readPrim false p path s = .ok (v, t)) :
    t.pos = s.pos + p.size ∧ t.scs = bump s.scs p.size := by
  unfold readPrim at h
  obtain ⟨_, s1, hb, h⟩ := bind_ok_inv h
  obtain ⟨bs, s2, ht, h⟩ := bind_ok_inv h
  have hs1 := bytesParsed_ok_inv hb
  obtain ⟨_, _, hs2⟩ := take_ok_inv ht
  simp only [Bool.false_eq_true, if_false] at h
  split at h <;>
  · simp only [Except.ok.injEq, Prod.mk.injEq] at h
    obtain ⟨_, rfl⟩ := h
    rw [hs2, hs1]; simp [emitM, emitW, emit]

/-- an overrun is only ever reported for a region the field really crosses -/
theorem bpGo_exc_over {path : Path} {size : Nat} {todo done : List SC} {s t : St} {cid : Nat} {cp : Path} {m a : Nat} {v : Path}
    {b : Nat} (h : bpGo path size done todo s = .error (.exceeded cid cp m a v b, t)) :
    ∃ c ∈ todo, c.id = cid ∧ c.over size = true := by
  rcases bpGo_cases path size todo done with h' | ⟨pre, c, post, rfl, hov, h'⟩
  · rw [h'] at h; cases h
  · rw [h', consume_eq] at h
    split at h
    · cases h
    · simp only [R.bind_ok, Except.error.injEq, Prod.mk.injEq, Err.exceeded.injEq] at h
      exact ⟨c, by simp, h.1.1, hov⟩

theorem readPrim_err {p : Prim} {path : Path} {s t : St} {e : Err} (h : readPrim false p path s = .error (e, t)) :
    bytesParsed path p.size s = .error (e, t) ∨ e = .depleted := by
  unfold readPrim at h
  rcases bind_error_inv h with h | ⟨_, s1, _, h⟩
  · exact Or.inl h
  · rcases bind_error_inv h with h | ⟨bs, s2, _, h⟩
    · unfold take at h
      split at h
      · simp only [Except.error.injEq, Prod.mk.injEq] at h
        exact Or.inr h.1.symm
      · cases h
    · simp only [Bool.false_eq_true, if_false] at h
      split at h <;> cases h

theorem readPrim_exc_over {p : Prim} {path : Path} {s t : St} {cid : Nat} {cp : Path} {m a : Nat} {v : Path} {b : Nat}
    (h : readPrim false p path s = .error (.exceeded cid cp m a v b, t)) : ∃ c ∈ s.scs, c.id = cid ∧ c.over p.size = true :=
  (readPrim_err h).elim bpGo_exc_over fun hd => nomatch hd

/-- the byte list of a size-prefixed buffer never overruns the buffer's own region: `k` one-byte elements are read
while the region still has room for `k` -/
theorem bytes_no_own (elem : Prim) (h1 : elem.size = 1) (path : Path) (id : Nat) :
    ∀ (k i : Nat) (s : St) (pre : List SC) (c : SC) (n : Nat), s.scs = pre ++ [c] → c.id = id → (∀ d ∈ pre, d.id ≠ id) →
    c.max = some n → c.already + k ≤ n →
    ∀ cid cp m a v b t, repeatDec (readPrim false elem) path k i s ≠ .error (.exceeded cid cp m a v b, t) ∨ cid ≠ id := by
  intro k
  induction k with
  | zero => intro i s pre c n _ _ _ _ _ cid cp m a v b t; exact Or.inl (by simp [repeatDec])
  | succ k ih =>
    intro i s pre c n hs hc hpre hm hk cid cp m a v b t
    by_cases hcid : cid = id
    · subst hcid
      refine Or.inl fun hh => ?_
      unfold repeatDec at hh
      rcases bind_error_inv hh with hr | ⟨v', s1, hr, hh⟩
      · obtain ⟨c', hc', hid, hov⟩ := readPrim_exc_over hr
        rw [hs, List.mem_append, List.mem_singleton] at hc'
        rcases hc' with hc' | rfl
        · exact hpre c' hc' hid
        · simp only [SC.over, hm, h1, decide_eq_true_eq] at hov
          omega
      · rcases bind_error_inv hh with hrr | ⟨_, _, _, hh⟩
        · have hs1 := (readPrim_warn_ok hr).2
          rw [hs, bump_append, h1] at hs1
          exact (ih (i+1) s1 (bump pre 1) (c.bump 1) n hs1 hc (bump_ids hpre) hm (by simp only [SC.bump]; omega) cid cp m a v b t).elim
            (fun h' => h' hrr) fun h' => h' rfl
        · cases hh
    · exact Or.inr hcid

theorem readPrimList_no_own {elem : Prim} (h1 : elem.size = 1) {path cpath : Path} {s1 s2 : St} {id n : Nat}
    (hs2 : s2.scs = s1.scs ++ [⟨id, cpath, 0, some n⟩]) (hne : ∀ d ∈ s1.scs, d.id ≠ id) (cp : Path) (m a : Nat) (v : Path)
    (b : Nat) (t : St) : readPrimList false elem path n s2 ≠ .error (.exceeded id cp m a v b, t) := by
  intro hb
  unfold readPrimList at hb
  rcases bind_error_inv hb with hb | ⟨_, _, _, hb⟩
  · exact (bytes_no_own elem h1 path id n 0 (emitM ⟨path, .listOf elem.name, none, "", 0⟩ s2) s1.scs _ n hs2 rfl hne rfl (by simp)
      id cp m a v b t).elim (· hb) (· rfl)
  · cases hb

/-- after the size field of a buffer: every open region is older than the position, so the position can name the buffer's
region, and opening that region succeeds -/
theorem sizeField_region {p : Prim} {path : Path} {s s1 : St} {nv : Val} (hpos : 0 < p.size) (hfr : Fresh s.scs s.pos)
    (h1 : readPrim false p path s = .ok (nv, s1)) (cpath : Path) (n : Nat) :
    (∀ d ∈ s1.scs, d.id ≠ s1.pos) ∧ ∃ s2, openRegion false s1.pos cpath n s1 = .ok ((), s2) ∧
      s2.scs = s1.scs ++ [⟨s1.pos, cpath, 0, some n⟩] ∧ s2.pos = s1.pos ∧ Fresh s2.scs s2.pos := by
  obtain ⟨hp, hs⟩ := readPrim_warn_ok h1
  obtain ⟨s2, h2, hs2, hp2⟩ := openRegion_warn s1.pos cpath n s1
  refine ⟨?_, s2, h2, hs2, hp2, ?_⟩
  · rw [hs, hp]; exact bump_ids fun d hd => by have := hfr d hd; omega
  · rw [hs2, hp2, hs, hp]; exact fresh_append (fresh_bump hfr) (Nat.le_refl _)

mutual
theorem decode_wi : (t : Ty) → t.wf = true → ∀ (path : Path) (sel : Option Int) (s : St), Fresh s.scs s.pos →
    WI s (decode false t path sel s)
  | .prim p, _, path, sel, s, _ => by simp only [decode]; exact readPrim_wi p path s
  | .struct name isP fs, hwf, path, sel, s, hfr => by
    simp only [decode]
    apply WI.of_emit
    exact (fields_wi fs (by simpa [Ty.wf] using hwf) path [] _ (by simpa [emitM, emit] using hfr)).bind fun vals t _ => WI.ok _ _
  | .tpm2bBytes name szName szP bufName elem, hwf, path, sel, s, hfr => by
    simp only [Ty.wf, Bool.and_eq_true, decide_eq_true_eq] at hwf
    obtain ⟨⟨⟨_, hszpos⟩, _⟩, hel1⟩ := hwf
    simp only [decode]
    apply WI.of_emit
    refine (readPrim_wi szP _ _).bind fun nv s1 h1 => ?_
    obtain ⟨hne, s2, h2, hs2, hp2, hfr2⟩ := sizeField_region hszpos (s := emitM ⟨path, .named name false, none, "", 0⟩ s) hfr h1
      (path ++ [⟨szName, none⟩]) (nv.asInt?.getD 0).toNat
    split
    · exact WI.crash _ _ _
    · rw [h2, R.bind_ok]
      -- `tpm2bBytes` has no `except`: none is needed, the bytes of the list cannot overrun the list's own region
      have := owner_wi hs2 hp2 hne (readPrimList_wi elem (path ++ [⟨bufName, none⟩]) (nv.asInt?.getD 0).toNat s2 hfr2)
        (fun bv => .obj name false [(szName, nv), (bufName, bv)])
      rwa [ownCatch_pass (readPrimList_no_own hel1 hs2 hne)] at this
  | .tpm2b name szName szP bufName body, hwf, path, sel, s, hfr => by
    simp only [Ty.wf, Bool.and_eq_true, decide_eq_true_eq] at hwf
    obtain ⟨⟨_, hszpos⟩, hwb⟩ := hwf
    simp only [decode]
    apply WI.of_emit
    refine (readPrim_wi szP _ _).bind fun nv s1 h1 => ?_
    obtain ⟨hne, s2, h2, hs2, hp2, hfr2⟩ := sizeField_region hszpos (s := emitM ⟨path, .named name false, none, "", 0⟩ s) hfr h1
      (path ++ [⟨szName, none⟩]) (nv.asInt?.getD 0).toNat
    split
    · exact WI.crash _ _ _
    · rw [h2, R.bind_ok]
      split
      · have := owner_wi (r := .ok (.none, emitM ⟨path ++ [⟨bufName, none⟩], body.eventTag, none, "", 0⟩ s2))
          hs2 hp2 hne ⟨Nat.le_refl _, rfl⟩ (fun _ => .obj name false [(szName, nv), (bufName, .none)])
        simpa [ownCatch] using this
      · exact owner_wi hs2 hp2 hne (decode_wi body hwb _ none s2 hfr2) (fun bv => .obj name false [(szName, nv), (bufName, bv)])
  | .union name arms, hwf, path, sel, s, hfr => by
    simp only [decode]
    apply WI.of_emit
    split
    · split
      · exact ⟨Nat.le_refl _, Or.inr (Or.inl rfl)⟩
      · exact ⟨Nat.le_refl _, Or.inr (Or.inl rfl)⟩
    · exact arm_wi arms (by simpa [Ty.wf] using hwf) name _ path _ (by simpa [emitM, emit] using hfr)
  | .bad r, _, path, sel, s, _ => by simp only [decode]; exact WI.crash _ _ _

theorem arm_wi : (arms : Arms) → arms.wf = true → ∀ (un want : String) (path : Path) (s : St), Fresh s.scs s.pos →
    WI s (decodeArm false arms un want path s)
  | .nil, _, un, want, path, s, _ => by simp only [decodeArm]; exact WI.crash _ _ _
  | .consNone an key rest, hwf, un, want, path, s, hfr => by
    simp only [decodeArm]
    split
    · exact WI.ok _ _
    · exact arm_wi rest (by simpa [Arms.wf] using hwf) un want path s hfr
  | .cons an key t rest, hwf, un, want, path, s, hfr => by
    simp only [Arms.wf, Bool.and_eq_true] at hwf
    simp only [decodeArm]
    split
    · exact (decode_wi t hwf.1 _ none s hfr).bind fun v t' _ => WI.ok _ _
    · exact arm_wi rest hwf.2 un want path s hfr
  | .consBytes an key elem n rest, hwf, un, want, path, s, hfr => by
    simp only [Arms.wf, Bool.and_eq_true] at hwf
    simp only [decodeArm]
    split
    · exact (readListArm_wi elem n _ s hfr).bind fun v t' _ => WI.ok _ _
    · exact arm_wi rest hwf.2 un want path s hfr

theorem fields_wi : (fs : Fields) → fs.wf = true → ∀ (path : Path) (vals : List (String × Val)) (s : St), Fresh s.scs s.pos →
    WI s (decodeFields false fs path vals s)
  | .nil, _, path, vals, s, _ => by simp only [decodeFields]; exact WI.ok _ _
  | .cons fname kind t rest, hwf, path, vals, s, hfr => by
    simp only [Fields.wf, Bool.and_eq_true] at hwf
    simp only [decodeFields]
    have hstep := fieldWith_wi _ (fun p sel s hf => decode_wi t hwf.1 p sel s hf) t.name kind (path ++ [⟨fname, none⟩]) vals s hfr
    exact hstep.bind fun v t' ht => fields_wi rest hwf.2 path _ t' (WI.fresh (ht ▸ hstep) hfr)
end

/-! ## messages: nothing but `depleted`, the two value errors and internal errors ever leaves a message walker -/

theorem decodeArea_wi (tb : MsgTables) (enc : Bool) (t : Ty) (hwt : t.wf = true) (hwe : tb.encParam.wf = true)
    (path : Path) (s : St) (hfr : Fresh s.scs s.pos) : WI s (decodeArea false tb enc t path s) := by
  unfold decodeArea
  by_cases hc : (enc && t.isParams) = true
  · simp only [hc, if_true]
    cases henc : encVariant tb.encParam t with
    | none => simp only []; exact decode_wi t hwt path none s hfr
    | some nf =>
      obtain ⟨name, fs⟩ := nf
      simp only []
      apply WI.of_emit
      exact (fields_wi fs (encVariant_wf hwe hwt henc) path [] _ (by simpa [emitM, emit] using hfr)).bind fun vals t' _ => WI.ok _ _
  · simp only [hc, Bool.false_eq_true, if_false]
    exact decode_wi t hwt path none s hfr

/-- the session loop inside its region `cid` (the last one opened): afterwards that region is gone, one way or the other -/
theorem sizedLoop_wi (t : Ty) (hwt : t.wf = true) (path : Path) (cid : Nat) :
    ∀ (fuel i : Nat) (acc : List Val) (s : St) (pre : List SC) (a : SC), s.scs = pre ++ [a] → a.id = cid →
    (∀ d ∈ pre, d.id ≠ cid) → Fresh s.scs s.pos →
    WI { s with scs := pre } (sizedLoop false t path cid fuel i acc s) := by
  intro fuel
  induction fuel with
  | zero => intro i acc s pre a _ _ _ _; exact ⟨Nat.le_refl _, Or.inr (Or.inr (Or.inl ⟨_, _, rfl⟩))⟩
  | succ n ih =>
    intro i acc s pre a hs ha hpre hfr
    subst ha
    unfold sizedLoop
    rw [hs, findSC_last a.id pre a rfl hpre]
    simp only []
    cases hm : a.max with
    | none => exact ⟨Nat.le_refl _, Or.inr (Or.inr (Or.inl ⟨_, _, rfl⟩))⟩
    | some m =>
      simp only []
      split
      · have hbody := decode_wi t hwt (elemPath path i) none s hfr
        refine hbody.own hs hpre fun v s1 pre1 a1 hv hl hid hne => ?_
        exact ih (i+1) (acc ++ [v]) s1 pre1 a1 hl hid hne (WI.fresh (hv ▸ hbody) hfr)
      · rw [removeSC_last a.id pre a rfl hpre]
        exact (assertDoneSC_wi a { s with scs := pre }).bind fun _ t' _ => WI.ok _ _

theorem decodeSized_wi (t : Ty) (hwt : t.wf = true) (path : Path) (cid : Nat) (s : St) (pre : List SC) (a : SC)
    (hs : s.scs = pre ++ [a]) (ha : a.id = cid) (hpre : ∀ d ∈ pre, d.id ≠ cid) (hfr : Fresh s.scs s.pos) :
    WI { s with scs := pre } (decodeSized false t path cid s) := by
  unfold decodeSized
  simp only []
  exact sizedLoop_wi t hwt path cid _ 0 [] (emitM ⟨path, .listOf t.name, none, "", 0⟩ s) pre a
    (by simpa [emitM, emit] using hs) ha hpre (by simpa [emitM, emit] using hfr)

/-- what may leave a message walker in warn mode -/
def WM {α : Type} (r : R α) : Prop :=
  match r with
  | .ok _ => True
  | .error (e, _) => e = .depleted ∨ e.isValueErr = true ∨ (∃ c m, e = .crash c m)

theorem WM.bind {α β : Type} {r : R α} {f : α → St → R β} (h : WM r) (hf : ∀ a t, r = .ok (a, t) → WM (f a t)) :
    WM (r.bind f) := by
  cases r with
  | error e => obtain ⟨e, t⟩ := e; exact h
  | ok at' => obtain ⟨a, t⟩ := at'; exact hf a t rfl

theorem WM.crash {α : Type} (c m : String) (s : St) : WM (crash c m s : R α) := Or.inr (Or.inr ⟨c, m, rfl⟩)

def Ends {α : Type} (E : Err → Prop) (Q : α → St → Prop) (r : R α) : Prop :=
  match r with
  | .ok (a, t) => Q a t
  | .error (e, _) => E e

theorem Ends.bind {α β : Type} {E : Err → Prop} {Q' : α → St → Prop} {Q : β → St → Prop} {r : R α} {f : α → St → R β}
    (h : Ends E Q' r) (hf : ∀ a t, Q' a t → Ends E Q (f a t)) : Ends E Q (r.bind f) := by
  cases r with
  | error et => exact h
  | ok at' => exact hf _ _ h

/-- what the `except` of message `c` needs of the step `r` it guards, started where the regions were those of `s`: it does not
move back, leaves those regions, and an error that does not satisfy `E` is an overrun of one of the message's two regions -/
structure Step (E : Err → Prop) (c : Cfg) (s : St) (r : R Val) : Prop where
  pos : s.pos ≤ (stOf r).pos
  regs : ∀ v t, r = .ok (v, t) → sig t.scs = sig s.scs
  err : ∀ e t, r = .error (e, t) → E e ∨ ∃ cid cp m a v b, e = .exceeded cid cp m a v b ∧ (cid = c.own ∨ cid = c.own + 1)

theorem Step.error {E : Err → Prop} {c : Cfg} {s t : St} {e : Err} (hp : s.pos ≤ t.pos)
    (he : E e ∨ ∃ cid cp m a v b, e = .exceeded cid cp m a v b ∧ (cid = c.own ∨ cid = c.own + 1)) :
    Step E c s (.error (e, t)) where
  pos := hp
  regs := fun _ _ h => nomatch h
  err := fun _ _ h => by cases h; exact he

theorem Step.attempt {E : Err → Prop} {Q : Val → St → Prop} {c : Cfg} (ha : c.abort = false) {s s' : St} {p : Prog Val}
    {vals : List (String × Val)} {k : Val → Prog Val} (hr : Step E c s' (p.run c s))
    (hc : ∀ cid cp m a v b t, p.run c s = .error (.exceeded cid cp m a v b, t) → s'.pos ≤ t.pos →
      Q (.obj c.name false vals) (emitW (.exceeded cid cp m a v b) t))
    (hk : ∀ v t, p.run c s = .ok (v, t) → s'.pos ≤ t.pos → sig t.scs = sig s'.scs → Ends E Q ((k v).run c t)) :
    Ends E Q ((Prog.attempt vals p k).run c s) := by
  rw [Prog.run_attempt, ha]
  have hpos := hr.pos
  cases hp : p.run c s with
  | ok vt => obtain ⟨v, t⟩ := vt; rw [hp] at hpos; exact hk v t hp hpos (hr.regs v t hp)
  | error et =>
    obtain ⟨e, t⟩ := et
    rw [hp] at hpos
    rcases hr.err e t hp with he | ⟨cid, cp, m, a, v, b, rfl, hcid⟩
    · cases e with
      | exceeded cid cp m a v b =>
        simp only [msgCatch, Bool.false_or]
        split
        · exact he
        · exact hc _ _ _ _ _ _ _ hp hpos
      | _ => exact he
    · have : (cid != c.own && cid != c.own + 1) = false := by rcases hcid with rfl | rfl <;> simp
      simp only [msgCatch, Bool.false_or, this, Bool.false_eq_true, if_false]
      exact hc _ _ _ _ _ _ _ hp hpos

/-- between the steps of message `c`: its own region, with limit `mx`, is the only one open, and the
position is past its start (a region's id is the position where it was opened) -/
def Msg (c : Cfg) (mx : Option Nat) (s : St) : Prop := sig s.scs = [(c.own, mx)] ∧ c.own + 1 ≤ s.pos

theorem sole_of_sig {scs : List SC} {id : Nat} {mx : Option Nat} (h : sig scs = [(id, mx)]) :
    ∃ a, scs = [a] ∧ a.id = id ∧ a.max = mx := by
  obtain ⟨a, ha, h2⟩ := List.map_eq_singleton_iff.mp h
  simp only [Prod.mk.injEq] at h2
  exact ⟨a, ha, h2.1, h2.2⟩

namespace Msg
variable {c : Cfg} {mx : Option Nat} {s : St}

theorem only (h : Msg c mx s) : ∀ d ∈ s.scs, d.id = c.own := by
  obtain ⟨a, ha, hid, _⟩ := sole_of_sig h.1
  intro d hd; rw [ha, List.mem_singleton] at hd; subst hd; exact hid

theorem own (h : Msg c mx s) : ∀ d ∈ s.scs, d.id = c.own ∨ d.id = c.own + 1 := fun d hd => Or.inl (h.only d hd)

theorem fresh (h : Msg c mx s) : Fresh s.scs s.pos := fun d hd => by have := h.only d hd; have := h.2; omega

/-- the state after `authSize` / `parameterSize` has opened its region -/
theorem inner (h : Msg c mx s) {s' : St} {cpath : Path} {n : Nat} (hs' : s'.scs = s.scs ++ [⟨c.own + 1, cpath, 0, some n⟩])
    (hp : s'.pos = s.pos) :
    (∀ d ∈ s.scs, d.id ≠ c.own + 1) ∧ Fresh s'.scs s'.pos ∧ ∀ d ∈ s'.scs, d.id = c.own ∨ d.id = c.own + 1 := by
  refine ⟨fun d hd => by have := h.only d hd; omega, ?_, fun d hd => ?_⟩
  · rw [hs', hp]; exact fresh_append h.fresh h.2
  · rw [hs', List.mem_append, List.mem_singleton] at hd
    rcases hd with hd | rfl
    · exact h.own d hd
    · exact Or.inr rfl

theorem attempt {E : Err → Prop} {Q : Val → St → Prop} (ha : c.abort = false) {s' : St} {p : Prog Val}
    {vals : List (String × Val)} {k : Val → Prog Val} (hs : Msg c mx s') (hr : Step E c s' (p.run c s))
    (hc : ∀ e t, c.own + 1 ≤ t.pos → Q (.obj c.name false vals) (emitW e t))
    (hk : ∀ v t, p.run c s = .ok (v, t) → Msg c mx t → Ends E Q ((k v).run c t)) :
    Ends E Q ((Prog.attempt vals p k).run c s) :=
  hr.attempt ha (fun _ _ _ _ _ _ t _ hp => hc _ t (Nat.le_trans hs.2 hp)) fun v t hv hp hg =>
    hk v t hv ⟨hg.trans hs.1, Nat.le_trans hs.2 hp⟩

end Msg


def WMErr (e : Err) : Prop := e = .depleted ∨ e.isValueErr = true ∨ ∃ c m, e = .crash c m

theorem WMErr.crash (cls site : String) : WMErr (.crash cls site) := Or.inr (Or.inr ⟨cls, site, rfl⟩)

theorem WM.of_ends {Q : Val → St → Prop} {r : R Val} (h : Ends WMErr Q r) : WM r := by
  cases r with
  | ok vt => trivial
  | error et => exact h

theorem MsgTables.wf_warn {tb : MsgTables} (hw : tb.wf = true) :
    0 < tb.tagCmd.size ∧ 0 < tb.tagRsp.size ∧ (tb.authCmd.wf = true ∧ tb.authCmd.nonEmpty = true) ∧
      (tb.authRsp.wf = true ∧ tb.authRsp.nonEmpty = true) ∧ tb.encParam.wf = true ∧ ∀ w : Layouts, (w.get tb).all (·.2.wf) = true := by
  simp only [MsgTables.wf, Bool.and_eq_true, decide_eq_true_eq] at hw
  obtain ⟨⟨⟨⟨⟨⟨⟨⟨⟨⟨⟨⟨⟨⟨⟨⟨⟨⟨_, hc⟩, _⟩, _⟩, _⟩, wac⟩, nac⟩, _⟩, hr⟩, _⟩, _⟩, _⟩, war⟩, nar⟩, we⟩, w1⟩, w2⟩, w3⟩, w4⟩ := hw
  exact ⟨hc, hr, ⟨wac, nac⟩, ⟨war, nar⟩, we, fun w => by cases w <;> assumption⟩

theorem WI.step {c : Cfg} {s : St} {r : R Val} (h : WI s r) (hown : ∀ d ∈ s.scs, d.id = c.own ∨ d.id = c.own + 1) :
    Step WMErr c s r where
  pos := h.1
  regs := fun v t hr => by subst hr; exact h.2
  err := fun e t hr => by
    subst hr
    rcases h.2 with h1 | h1 | h1 | ⟨cid, cp, m, a, v, b, rfl, pre, d, post, hdec, hcid, _⟩
    · exact Or.inl (Or.inl h1)
    · exact Or.inl (Or.inr (Or.inl h1))
    · exact Or.inl (Or.inr (Or.inr h1))
    · exact Or.inr ⟨cid, cp, m, a, v, b, rfl, hcid ▸ hown d (by rw [hdec]; simp)⟩

theorem WI.ends {α : Type} {s : St} {r : R α} (h : WI s r) (hs : s.scs = []) :
    Ends WMErr (fun _ t => s.pos ≤ t.pos ∧ t.scs = []) r := by
  cases r with
  | ok at' =>
    refine ⟨h.1, ?_⟩
    have := h.2
    simpa [hs, sig] using this
  | error et =>
    rcases h.2 with h1 | h1 | h1 | ⟨cid, cp, m, a, v, b, _, pre, d, post, hdec, _⟩
    · exact Or.inl h1
    · exact Or.inr (Or.inl h1)
    · exact Or.inr (Or.inr h1)
    · rw [hs] at hdec; simp at hdec

theorem setListed_warn (id : Nat) (cpath : Path) (n : Nat) (s : St) :
    ∃ t, setListed false id cpath n s = .ok ((), t) ∧ t.pos = s.pos ∧
      t.scs = s.scs.map fun c => if c.id = id then { c with path := cpath, max := some n } else c := by
  unfold setListed anticipateM
  simp only []
  split
  · exact ⟨_, rfl, rfl, rfl⟩
  · simp only [Bool.false_eq_true, if_false]
    exact ⟨_, rfl, rfl, rfl⟩

/-- a body inside a freshly opened region followed by that region's `assert_done`, without an `except` of its own
(the parameter area of a response inside `parameterSize`: the message's `except` catches for it) -/
theorem inRegion_wi {s1 s2 : St} {id : Nat} {cpath : Path} {n : Nat} (hs2 : s2.scs = s1.scs ++ [⟨id, cpath, 0, some n⟩])
    (hpos : s2.pos = s1.pos) (hfresh : ∀ d ∈ s1.scs, d.id ≠ id) {r : R Val} (hr : WI s2 r) {c : Cfg}
    (hown : ∀ d ∈ s2.scs, d.id = c.own ∨ d.id = c.own + 1) :
    Step WMErr c s1 (r.bind fun bv s => (assertDone false id s).bind fun _ s => .ok (bv, s)) := by
  cases r with
  | error et => exact .error (hpos ▸ hr.1) ((hr.step hown).err _ _ rfl)
  | ok vt =>
    obtain ⟨v, t⟩ := vt
    exact (owner_wi hs2 hpos hfresh hr fun bv => bv).step fun d hd => hown d (by rw [hs2]; exact List.mem_append_left _ hd)

theorem setListed_warn' (id : Nat) (cpath : Path) (n : Nat) (s : St) :
    ∃ t, setListed false id cpath n s = .ok ((), t) ∧ t.pos = s.pos ∧ t.scs.map (·.id) = s.scs.map (·.id) := by
  obtain ⟨t, e, hp, hg⟩ := setListed_warn id cpath n s
  refine ⟨t, e, hp, ?_⟩
  rw [hg, List.map_map]
  exact List.map_congr_left fun c _ => by simp only [Function.comp]; split <;> rfl

theorem Prog.run_field_warn {c : Cfg} (ha : c.abort = false) (f : HField) (s : St) :
    (Prog.leaf (.field f)).run c s = readPrim false (f.prim c.tb) (c.at f.name) s := by rw [Prog.run_leaf, Leaf.run, ha]

namespace Msg
variable {c : Cfg} {mx : Option Nat} {s : St} (ha : c.abort = false)
include ha

local notation "Wm" => Ends WMErr fun _ _ => True

theorem field_wi (hs : Msg c mx s) (f : HField) : Step WMErr c s ((Prog.leaf (.field f)).run c s) := by
  rw [Prog.run_field_warn ha]
  exact (readPrim_wi _ _ s).step hs.own

theorem hdr_wm {vals : List (String × Val)} {f : HField} {k : Val → Prog Val} (hs : Msg c mx s)
    (hk : ∀ v t, Msg c mx t → Wm ((k v).run c t)) : Wm ((Prog.hdr vals f k).run c s) :=
  hs.attempt ha (hs.field_wi ha f) (fun _ _ _ => trivial) fun v t _ => hk v t

theorem setOwn {P : R Val → Prop} {f : HField} {n : Nat} {k : Unit → Prog Val} (hs : Msg c mx s)
    (hk : ∀ t, Msg c (some n) t → P ((k ()).run c t)) : P ((Prog.bind (Prog.leaf (.setOwn f n)) k).run c s) := by
  obtain ⟨t, e, hp, hg⟩ := setListed_warn c.own (c.at f.name) n s
  rw [Prog.run_bind, Prog.run_leaf, Leaf.run, ha, e]
  refine hk t ⟨?_, hp ▸ hs.2⟩
  obtain ⟨a, hsa, hid, _⟩ := sole_of_sig hs.1
  rw [hg, hsa]; simp [sig, hid]

theorem openInner {P : R Val → Prop} {f : HField} {n : Nat} {k : Unit → Prog Val}
    (hk : ∀ t, t.scs = s.scs ++ [⟨c.own + 1, c.at f.name, 0, some n⟩] → t.pos = s.pos → P ((k ()).run c t)) :
    P ((Prog.bind (Prog.leaf (.openInner f n)) k).run c s) := by
  obtain ⟨t, e, hg, hp⟩ := openRegion_warn (c.own + 1) (c.at f.name) n s
  rw [Prog.run_bind, Prog.run_leaf, Leaf.run, ha, e]
  exact hk t hg hp

omit mx in
theorem area_wi (hw : c.tb.wf = true) (w : Layouts) (key : Option Int) (enc : Bool) (nm : String) (hfr : Fresh s.scs s.pos) :
    WI s (Leaf.run c (.area w key enc nm) s) := by
  obtain ⟨_, _, _, _, we, wl⟩ := MsgTables.wf_warn hw
  rw [Leaf.run]
  split
  · exact ⟨Nat.le_refl _, Or.inr (Or.inl (by cases key <;> rfl))⟩
  · rename_i ty hty
    obtain ⟨k, _, hk⟩ := Option.bind_eq_some_iff.mp hty
    rw [ha]
    exact decodeArea_wi c.tb enc ty (lookupTy_wf (wl w) hk) we _ s hfr

theorem area_wm (hw : c.tb.wf = true) {vals : List (String × Val)} {w : Layouts} {key : Option Int} {enc : Bool} {nm : String}
    {k : Val → Prog Val} (hs : Msg c mx s) (hk : ∀ v t, Msg c mx t → Wm ((k v).run c t)) :
    Wm ((Prog.attempt vals (Prog.leaf (.area w key enc nm)) k).run c s) :=
  hs.attempt ha ((area_wi ha hw w key enc nm hs.fresh).step hs.own) (fun _ _ _ => trivial) fun v t _ => hk v t

theorem sessionsCmd_wm (hw : c.tb.wf = true) {vals : List (String × Val)} {k : Val → Prog Val} {s' : St} {cpath : Path} {n : Nat}
    (hs : Msg c mx s) (hs' : s'.scs = s.scs ++ [⟨c.own + 1, cpath, 0, some n⟩]) (hp : s'.pos = s.pos)
    (hk : ∀ v t, Msg c mx t → Wm ((k v).run c t)) : Wm ((Prog.attempt vals (Prog.leaf (.sessions false)) k).run c s') := by
  obtain ⟨_, _, ⟨wa, _⟩, _, _, _⟩ := MsgTables.wf_warn hw
  have hin : Msg c mx { s' with scs := s.scs } := ⟨hs.1, hp ▸ hs.2⟩
  refine hin.attempt ha ?_ (fun _ _ _ => trivial) fun v t _ => hk v t
  rw [Prog.run_leaf, Leaf.run, ha]
  obtain ⟨hne, hfr, _⟩ := hs.inner hs' hp
  exact (decodeSized_wi c.tb.authCmd wa _ (c.own + 1) s' s.scs _ hs' rfl hne hfr).step hin.own

theorem paramsInner_wm (hw : c.tb.wf = true) {vals : List (String × Val)} {w : Layouts} {key : Option Int} {enc : Bool}
    {nm : String} {ts : Test} (hts : ts.eval c.tb = true) {k : Val → Prog Val} {s' : St} {cpath : Path} {n : Nat}
    (hs : Msg c mx s) (hs' : s'.scs = s.scs ++ [⟨c.own + 1, cpath, 0, some n⟩]) (hp : s'.pos = s.pos)
    (hk : ∀ v t, Msg c mx t → Wm ((k v).run c t)) :
    Wm ((Prog.attempt vals (Prog.bind (Prog.leaf (.area w key enc nm)) fun pv =>
      Prog.cond ts (Prog.bind (Prog.leaf (.done true)) fun _ => Prog.pure pv) (Prog.pure pv)) k).run c s') := by
  obtain ⟨hne, hfr, hown⟩ := hs.inner hs' hp
  refine hs.attempt ha ?_ (fun _ _ _ => trivial) fun v t _ => hk v t
  have hd : ∀ t, Leaf.run c (.done true) t = assertDone false (c.own + 1) t := fun t => by rw [Leaf.run, ha]; rfl
  simp only [Prog.run_bind, Prog.run_cond, hts, if_true, Prog.run_leaf, Prog.run_pure, hd]
  exact inRegion_wi hs' hp hne (area_wi ha hw w key enc nm hfr) hown

theorem params_wm (hw : c.tb.wf = true) {vals : List (String × Val)} {w : Layouts} {key : Option Int} {enc : Bool}
    {nm : String} {ts : Test} (hts : ts.eval c.tb = false) {k : Val → Prog Val} {p : Val → Prog Val} (hs : Msg c mx s)
    (hk : ∀ v t, Msg c mx t → Wm ((k v).run c t)) :
    Wm ((Prog.attempt vals (Prog.bind (Prog.leaf (.area w key enc nm)) fun pv => Prog.cond ts (p pv) (Prog.pure pv)) k).run c s) := by
  refine hs.attempt ha ?_ (fun _ _ _ => trivial) fun v t _ => hk v t
  simp only [Prog.run_bind, Prog.run_cond, hts, Bool.false_eq_true, if_false, Prog.run_pure, R.bind_pure, Prog.run_leaf]
  exact (area_wi ha hw w key enc nm hs.fresh).step hs.own

theorem sessionsRsp_wm (hw : c.tb.wf = true) {vals : List (String × Val)} {k : Val → Prog Val} (hs : Msg c mx s)
    (hk : ∀ v t, Wm ((k v).run c t)) : Wm ((Prog.attempt vals (Prog.leaf (.sessions true)) k).run c s) := by
  obtain ⟨_, _, _, ⟨wa, _⟩, _, _⟩ := MsgTables.wf_warn hw
  obtain ⟨a, hsa, hid, _⟩ := sole_of_sig hs.1
  refine Step.attempt ha (s' := { s with scs := [] }) ?_ (fun _ _ _ _ _ _ _ _ _ => trivial) fun v t _ _ _ => hk v t
  rw [Prog.run_leaf, Leaf.run, ha]
  exact (decodeSized_wi c.tb.authRsp wa _ c.own s [] a hsa hid (fun _ hd => nomatch hd) hs.fresh).step fun _ hd => nomatch hd

theorem done_wm {k : Unit → Prog Val} (hs : Msg c mx s) (hk : ∀ t, t.scs = [] → Wm ((k ()).run c t)) :
    Wm ((Prog.bind (Prog.leaf (.done false)) k).run c s) := by
  obtain ⟨a, hsa, hid, _⟩ := sole_of_sig hs.1
  rw [Prog.run_bind, Prog.run_leaf, Leaf.run, ha]
  simp only [Bool.false_eq_true, if_false]
  rw [assertDone_last (pre := []) hsa hid (fun _ hd => nomatch hd)]
  exact ((assertDoneSC_wi a _).ends rfl).bind fun _ t ht => hk t ht.2

end Msg

theorem Ends.check {α : Type} {E : Err → Prop} {Q : Val → St → Prop} {c : Cfg} {s : St} (q : Check α) {k : α → Prog Val}
    (hE : ∀ cls site, E (.crash cls site)) (hk : ∀ a, Ends E Q ((k a).run c s)) :
    Ends E Q ((Prog.bind (Prog.check q) k).run c s) := by
  rw [Prog.run_bind, Prog.run_check, Check.run]
  split
  · exact hk _
  · exact hE _ _

/-- the first field of a message is read while the message's region has no limit yet: it cannot be overrun -/
theorem Step.first {E : Err → Prop} {Q : Val → St → Prop} {c : Cfg} (ha : c.abort = false) {s : St} {f : HField} {k : Val → Prog Val}
    (hs : sig s.scs = [(c.own, none)]) (hp : c.own ≤ s.pos) (h0 : 0 < (f.prim c.tb).size)
    (hr : Step E c s (readPrim false (f.prim c.tb) (c.at f.name) s))
    (hk : ∀ v t, readPrim false (f.prim c.tb) (c.at f.name) s = .ok (v, t) → Msg c none t → Ends E Q ((k v).run c t)) :
    Ends E Q ((Prog.hdr [] f k).run c s) := by
  have hl := Prog.run_field_warn ha f s
  refine Step.attempt ha (s' := s) (hl ▸ hr) (fun cid cp m a v b t he _ => ?_) fun v t hv _ hg => ?_
  · obtain ⟨d, hd, _, hov⟩ := readPrim_exc_over (hl ▸ he)
    obtain ⟨d0, hs0, _, hmax⟩ := sole_of_sig hs
    rw [hs0, List.mem_singleton] at hd
    subst hd
    simp [SC.over, hmax] at hov
  · rw [hl] at hv
    exact hk v t hv ⟨hg.trans hs, by have := (readPrim_warn_ok hv).1; omega⟩

section
variable {c : Cfg} {mx : Option Nat} {s : St} (ha : c.abort = false) (hw : c.tb.wf = true)
include ha hw

local notation "Wm" => Ends WMErr fun _ _ => True

theorem cmdTail_wm (cc : Int) (vals : List (String × Val)) (enc : Bool) (hs : Msg c mx s) : Wm ((Prog.cmdTail cc vals enc).run c s) :=
  hs.area_wm ha hw fun _ _ ht => ht.done_wm ha fun _ _ => trivial

omit hw in
theorem rspFinish_wm (vals : List (String × Val)) (hs : Msg c mx s) : Wm ((Prog.rspFinish vals).run c s) :=
  hs.done_wm ha fun _ _ => Ends.check _ WMErr.crash fun _ => trivial

end

theorem decodeCommand_wm (tb : MsgTables) (hw : tb.wf = true) (path : Path) (s0 : St) : WM (decodeCommand false tb path s0) := by
  rw [decodeCommand_eq_run]
  have ha : (⟨false, tb, path, s0.pos, "Command"⟩ : Cfg).abort = false := rfl
  refine WM.of_ends (Q := fun _ _ => True) ?_
  refine Step.first ha (f := .tagCmd) rfl (Nat.le_refl _) (MsgTables.wf_warn hw).1 ((readPrim_wi _ _ _).step fun d hd => ?_)
    fun tag s1 _ h1 => ?_
  · exact Or.inl (by rw [List.mem_singleton.mp hd])
  refine h1.hdr_wm ha fun csz s2 h2 => ?_
  refine Ends.check _ WMErr.crash fun n => ?_
  refine h2.setOwn ha fun s3 h3 => ?_
  refine h3.hdr_wm ha fun ccv s4 h4 => ?_
  refine h4.area_wm ha hw fun hv s5 h5 => ?_
  rw [Prog.run_cond]
  split
  · refine h5.hdr_wm ha fun asz s6 h6 => ?_
    refine Ends.check _ WMErr.crash fun an => ?_
    refine Msg.openInner ha fun s7 hs7 p7 => ?_
    refine h6.sessionsCmd_wm ha hw hs7 p7 fun area s8 h8 => ?_
    exact Ends.check _ WMErr.crash fun enc => cmdTail_wm ha hw _ _ enc h8
  · exact cmdTail_wm ha hw _ _ false h5

theorem decodeResponse_wm (tb : MsgTables) (hw : tb.wf = true) (cc : Option Int) (enc : Bool) (path : Path) (s0 : St) :
    WM (decodeResponse false tb cc enc path s0) := by
  rw [decodeResponse_eq_run]
  have ha : (⟨false, tb, path, s0.pos, "Response"⟩ : Cfg).abort = false := rfl
  refine WM.of_ends (Q := fun _ _ => True) ?_
  refine Step.first ha (f := .tagRsp) rfl (Nat.le_refl _) (MsgTables.wf_warn hw).2.1 ((readPrim_wi _ _ _).step fun d hd => ?_)
    fun tag s1 _ h1 => ?_
  · exact Or.inl (by rw [List.mem_singleton.mp hd])
  refine h1.hdr_wm ha fun rsz s2 h2 => ?_
  refine Ends.check _ WMErr.crash fun n => ?_
  refine h2.setOwn ha fun s3 h3 => ?_
  refine h3.hdr_wm ha fun rcv s4 h4 => ?_
  rw [Prog.run_cond]
  split
  · exact rspFinish_wm ha _ h4
  refine h4.area_wm ha hw fun hv s5 h5 => ?_
  cases hsess : vInt tag == some tb.sessionsTag
  · simp only [Prog.run_cond, Test.eval, hsess, Bool.false_eq_true, if_false]
    refine h5.params_wm ha hw (ts := .sessions tag) hsess fun pv s6 h6 => ?_
    simp only [Prog.run_cond, Test.eval, hsess, Bool.not_false, if_true]
    exact rspFinish_wm ha _ h6
  · simp only [Prog.run_cond, Test.eval, hsess, if_true]
    refine h5.hdr_wm ha fun psz s6 h6 => ?_
    refine Ends.check _ WMErr.crash fun pn => ?_
    refine Msg.openInner ha fun s7 hs7 p7 => ?_
    refine h6.paramsInner_wm ha hw (ts := .sessions tag) hsess hs7 p7 fun pv s8 h8 => ?_
    simp only [Prog.run_cond, Test.eval, hsess, Bool.not_true, Bool.false_eq_true, if_false]
    refine h8.sessionsRsp_wm ha hw fun area s9 => ?_
    refine Ends.check _ WMErr.crash fun expected => ?_
    rw [Prog.run_cond]
    split
    · exact WMErr.crash _ _
    · exact Ends.check _ WMErr.crash fun _ => trivial

theorem decodeStream_wm (tb : MsgTables) (hw : tb.wf = true) (path : Path) : ∀ (fuel : Nat) (s : St),
    WM (decodeStream false tb path fuel s) := by
  intro fuel
  induction fuel with
  | zero => intro s; exact WM.crash _ _ _
  | succ n ih =>
    intro s
    unfold decodeStream
    split
    · trivial
    · refine (decodeCommand_wm tb hw path s).bind fun cmd s1 _ => ?_
      split
      · exact WM.crash _ _ _
      · split
        · trivial
        · exact (decodeResponse_wm tb hw _ _ path s1).bind fun _ s2 _ => ih s2

/-- **warn mode, every top-level decode**: the walker ends with a result, with `depleted`, with one of the two value
errors after which the layout is unknowable, or with an internal error — never with a size error -/
theorem runWalker_wm (tb : MsgTables) (hw : tb.wf = true) (top : Top) (htop : ∀ t, top = .ty t → t.wf = true) (x : List Byte) :
    WM (runWalker false tb top x) := by
  unfold runWalker
  cases top with
  | ty t => exact WM.of_ends ((decode_wi t (htop t rfl) rootPath none (initSt x) (by intro c hc; cases hc)).ends rfl)
  | command => exact decodeCommand_wm tb hw rootPath _
  | response cc enc => exact decodeResponse_wm tb hw cc enc rootPath _
  | stream => exact decodeStream_wm tb hw rootPath _ _
