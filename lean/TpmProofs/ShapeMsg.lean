import TpmProofs.Shape
import TpmProofs.Prog
/-!
# Shaped event streams: areas, session lists, commands, responses, streams

`GM σ` / `GM1 σ`: the events of a message at `σ` — the root event first, everything else strictly below it (`GM1`: exactly one
root event).

For the two message walkers the path discipline is a fact about their programs: `Leaf.writes` names the slot a step writes to,
`Prog.In p N` says that the steps of `p` write to the slots `N` in this order, and `Prog.In.tr` turns that into `Tr (S N)` for
any slot predicate `S` with the closure properties `Slotted` (`GN` here, `ME` in EndsOk.lean).
-/

section
variable {okc : MEvent → Prop} {pk : Prim → Bool} (abort : Bool)

theorem Tr.msgCatch {P1 P2 P : List Event → Prop} {s : St} {r : R Val} {k : Val → St → R Val} (id1 id2 : Nat)
    (name : String) (vals : List (String × Val)) (h : Tr P1 s r)
    (hk : ∀ v t, r = .ok (v, t) → Tr P2 t (k v t)) (h1 : ∀ E, P1 E → P E)
    (h1w : ∀ E w, P1 E → P (E ++ [.warning w])) (h12 : ∀ E1 E2, P1 E1 → P2 E2 → P (E1 ++ E2)) :
    Tr P s (_root_.msgCatch abort id1 id2 name vals r k) := by
  unfold _root_.msgCatch
  split
  · split
    · exact h.mono h1
    · exact h.caught _ _ (h1w · _)
  · exact h.mono h1
  · exact h.bind hk h1 h12

/-! ## areas -/

/-- side condition on a handle / parameter layout: the layout itself and its `.encrypted()` variant -/
def Ty.areaOk (t : Ty) (pk : Prim → Bool) (encParam : Ty) : Bool :=
  t.shapeOk pk &&
  (match encVariant encParam t with
   | some (_, fs) => fs.shapeOk pk && decide (fs.names.Nodup)
   | none => true)

theorem decodeArea_gd (hpk : PrimLink abort pk okc) (tb : MsgTables) (enc : Bool) (t : Ty) (ht : t.areaOk pk tb.encParam = true) (σ : Path) (s : St) :
    Tr (GD okc σ) s (decodeArea abort tb enc t σ s) := by
  simp only [Ty.areaOk, Bool.and_eq_true] at ht
  unfold decodeArea
  split
  · split
    · exact decode_gd abort hpk t ht.1 σ none s
    · rename_i name fs hv
      rw [hv] at ht
      simp only [Bool.and_eq_true, decide_eq_true_eq] at ht
      exact Tr.own_gd ((decodeFields_gn abort hpk fs ht.2.1 ht.2.2 σ [] _).bind_quiet fun _ _ => rfl)
  · exact decode_gd abort hpk t ht.1 σ none s

/-! ## the session list -/

/-- the session loop: `D i` of element `i`, `L i` of the elements from `i` on -/
theorem sizedLoop_each {D L : Nat → List Event → Prop} (t : Ty) (path : Path) (cid : Nat)
    (hd : ∀ i s, Tr (D i) s (decode abort t (elemPath path i) none s)) (hgw : ∀ i {W}, GW W → L i W)
    (hcons : ∀ i {E1 E2}, D i E1 → L (i + 1) E2 → L i (E1 ++ E2)) :
    ∀ (fuel i : Nat) (acc : List Val) (s : St), Tr (L i) s (sizedLoop abort t path cid fuel i acc s) := by
  intro fuel
  induction fuel with
  | zero => intro i acc s; exact Tr.quiet rfl (hgw i GW.nil)
  | succ n ih =>
    intro i acc s
    unfold sizedLoop
    split
    · exact Tr.quiet rfl (hgw i GW.nil)
    · split
      · exact Tr.quiet rfl (hgw i GW.nil)
      · split
        · refine Tr.ownCatch abort cid (hd i s) (fun v t2 _ => ih (i + 1) (acc ++ [v]) t2) (fun E h => ?_)
            (fun _ w h => hcons i h (hgw _ (GW.cons_w w GW.nil))) (fun _ _ => hcons i)
          have := hcons i h (hgw (i + 1) GW.nil)
          simpa using this
        · exact Tr.of_scs (removeSC cid s.scs) (((assertDoneSC_gw abort _ _).bind_quiet fun _ _ => rfl).mono fun _ => hgw i)

theorem sizedLoop_gr (hpk : PrimLink abort pk okc) (t : Ty) (ht : t.shapeOk pk = true) (π : Path) (f : String) (cid : Nat) :
    ∀ (fuel i : Nat) (acc : List Val) (s : St),
      Tr (GR okc π f i) s (sizedLoop abort t (π ++ [⟨f, none⟩]) cid fuel i acc s) :=
  sizedLoop_each abort t _ cid (fun i s => by rw [elemPath_snoc']; exact decode_gd abort hpk t ht _ none s) (GR.of_gw π f)
    (fun _ => GR.cons)

theorem decodeSized_gn (hpk : PrimLink abort pk okc) (t : Ty) (ht : t.shapeOk pk = true) (hn : t.name ≠ "BYTE") (π : Path) (f : String) (cid : Nat)
    (s : St) : Tr (GN okc π [f]) s (decodeSized abort t (π ++ [⟨f, none⟩]) cid s) := by
  unfold decodeSized
  exact list_gn π f t.name s _ (sizedLoop_gr abort hpk t ht π f cid _ 0 [] _) (fun h => absurd h hn)
end

/-! ## commands and responses -/

/-- the events of a message: under `σ`, and (unless there are none) starting with the message's root event at `σ` -/
def GM (okc : MEvent → Prop) (σ : Path) (E : List Event) : Prop :=
  GD okc σ E ∧ (E = [] ∨ ∃ m0 E', E = .marshal m0 :: E' ∧ m0.path = σ)

/-- a single message: its root event at `σ`, then only events strictly below `σ` -/
def GM1 (okc : MEvent → Prop) (σ : Path) (E : List Event) : Prop :=
  GD okc σ E ∧ ∃ m0 E', E = .marshal m0 :: E' ∧ m0.path = σ ∧ ∀ m, .marshal m ∈ E' → m.path ≠ σ

theorem GM1.toGM {okc : MEvent → Prop} {σ : Path} {E : List Event} (h : GM1 okc σ E) : GM okc σ E := by
  obtain ⟨hgd, m0, E', rfl, hm0, _⟩ := h
  exact ⟨hgd, Or.inr ⟨m0, E', rfl, hm0⟩⟩

/-- a list event of a message lies strictly below the root: the next message's root event is not its child -/
theorem gd_root_nonchild {okc : MEvent → Prop} {σ : Path} (hσ : σ ≠ []) {E : List Event} (h : GD okc σ E) {p : MEvent}
    (hp : .marshal p ∈ E) {n : String} (hty : p.ty = .listOf n) : isChild p.path σ = false := by
  obtain ⟨⟨r, hpp, hl⟩, _⟩ := h.1 p hp
  have hr : 0 < r.length := List.length_pos_iff.mpr fun hr => hl hr n hty
  have hs : 0 < σ.length := List.length_pos_iff.mpr hσ
  unfold isChild
  have : (p.path.dropLast == σ.dropLast) = false := beq_false_of_ne fun heq => by
    have := congrArg List.length heq
    simp only [List.length_dropLast, hpp, List.length_append] at this
    omega
  simp [this]

/-- messages one after the other: the next message's root event ends every open run of buffer children -/
theorem GM.append {okc : MEvent → Prop} {σ : Path} (hσ : σ ≠ []) {E1 E2 : List Event} (h1 : GM okc σ E1) (h2 : GM okc σ E2) :
    GM okc σ (E1 ++ E2) := by
  refine ⟨⟨fun m hm => ?_, ?_⟩, ?_⟩
  · rcases List.mem_append.mp hm with hm | hm
    · exact h1.1.1 m hm
    · exact h2.1.1 m hm
  · apply kidsOk_append E1 E2 h1.1.2 h2.1.2
    intro p hp hty
    rcases h2.2 with rfl | ⟨m0, E', rfl, hm0⟩
    · rfl
    · simp only [bytesRun, hm0, gd_root_nonchild hσ h1.1 hp hty]
      rfl
  · rcases h1.2 with rfl | ⟨m0, E', rfl, hm0⟩
    · simpa using h2.2
    · exact Or.inr ⟨m0, E' ++ E2, rfl, hm0⟩

def MsgTables.shapeOk (tb : MsgTables) (pk : Prim → Bool) : Bool :=
  pk tb.tagCmd && pk tb.cmdSize && pk tb.cc && pk tb.authSize &&
  pk tb.tagRsp && pk tb.rspSize && pk tb.rc && pk tb.paramSize &&
  tb.authCmd.shapeOk pk && decide (tb.authCmd.name ≠ "BYTE") && tb.authRsp.shapeOk pk && decide (tb.authRsp.name ≠ "BYTE") &&
  (tb.cmdHandles ++ tb.cmdParams ++ tb.rspHandles ++ tb.rspParams).all fun kt => kt.2.areaOk pk tb.encParam

section
variable {okc : MEvent → Prop} {pk : Prim → Bool} (abort : Bool)

theorem lookupTy_mem {m : List (Int × Ty)} {k : Int} {t : Ty} (h : lookupTy m k = some t) : ∃ k', (k', t) ∈ m := by
  unfold lookupTy at h
  simp only [Option.map_eq_some_iff] at h
  obtain ⟨⟨k', t'⟩, hf, rfl⟩ := h
  exact ⟨k', List.mem_of_find?_eq_some hf⟩

theorem Layouts.get_sub (tb : MsgTables) (w : Layouts) (kt : Int × Ty) (h : kt ∈ w.get tb) :
    kt ∈ tb.cmdHandles ++ tb.cmdParams ++ tb.rspHandles ++ tb.rspParams := by
  simp only [List.mem_append]
  cases w
  · exact Or.inl (Or.inl (Or.inl h))
  · exact Or.inl (Or.inl (Or.inr h))
  · exact Or.inl (Or.inr h)
  · exact Or.inr h

theorem lookupTy_areaOk {tb : MsgTables} (h : tb.shapeOk pk = true) {w : Layouts} {k : Int} {t : Ty}
    (hl : lookupTy (w.get tb) k = some t) : t.areaOk pk tb.encParam = true := by
  unfold MsgTables.shapeOk at h
  simp only [Bool.and_eq_true, List.all_eq_true] at h
  obtain ⟨k', hm⟩ := lookupTy_mem hl
  exact h.2 _ (w.get_sub tb _ hm)

theorem MsgTables.shapeOk_prim {tb : MsgTables} (h : tb.shapeOk pk = true) (f : HField) : pk (f.prim tb) = true := by
  unfold MsgTables.shapeOk at h
  simp only [Bool.and_eq_true] at h
  cases f <;> simp only [HField.prim, h]

structure Slotted (S : List String → List Event → Prop) : Prop where
  of_gw : ∀ (N : List String) {E : List Event}, GW E → S N E
  mono : ∀ {N N' : List String} {E : List Event}, S N E → (∀ g ∈ N, g ∈ N') → S N' E
  append : ∀ {N1 N2 : List String} {E1 E2 : List Event}, S N1 E1 → S N2 E2 → (∀ g ∈ N1, g ∉ N2) → S (N1 ++ N2) (E1 ++ E2)

theorem GN.slotted (π : Path) : Slotted (GN okc π) := ⟨GN.of_gw π, GN.mono, GN.append⟩

/-- the slots a step writes to; the root event lies in none -/
def Leaf.writes : {α : Type} → Leaf α → Option (List String)
  | _, .start => none
  | _, .field f => some [f.name]
  | _, .area _ _ _ name => some [name]
  | _, .sessions _ => some ["authorizationArea"]
  | _, .setOwn _ _ => some []
  | _, .openInner _ _ => some []
  | _, .done _ => some []

inductive Prog.In : {α : Type} → Prog α → List String → Prop where
  | pure {α : Type} (a : α) : In (.pure a) []
  | check {α : Type} (q : Check α) : In (.check q) []
  | leaf {α : Type} {l : Leaf α} {N : List String} : l.writes = some N → In (.leaf l) N
  | bind {α β : Type} {p : Prog α} {k : α → Prog β} {N1 N2 : List String} :
    In p N1 → (∀ a, In (k a) N2) → In (.bind p k) (N1 ++ N2)
  | attempt {vals : List (String × Val)} {p : Prog Val} {k : Val → Prog Val} {N1 N2 : List String} :
    In p N1 → (∀ v, In (k v) N2) → In (.attempt vals p k) (N1 ++ N2)
  | cond {α : Type} {t : Test} {p q : Prog α} {N : List String} : In p N → In q N → In (.cond t p q) N
  | mono {α : Type} {p : Prog α} {N N' : List String} : In p N → N.Sublist N' → In p N'

/-- a program that writes to distinct slots, run with steps that keep to theirs -/
theorem Prog.In.tr {c : Cfg} {S : List String → List Event → Prop} (hS : Slotted S)
    (hl : ∀ {α : Type} (l : Leaf α) (N : List String) (s : St), l.writes = some N → Tr (S N) s (l.run c s))
    {α : Type} {p : Prog α} {N : List String} (h : p.In N) : N.Nodup → ∀ s, Tr (S N) s (p.run c s) := by
  induction h with
  | pure a => exact fun _ s => Tr.quiet rfl (hS.of_gw [] GW.nil)
  | check q =>
    intro _ s
    simp only [Prog.run, Check.run]
    split
    · exact Tr.quiet rfl (hS.of_gw [] GW.nil)
    · exact Tr.quiet rfl (hS.of_gw [] GW.nil)
  | leaf h => exact fun _ s => hl _ _ s h
  | bind _ _ ihp ihk =>
    intro hn s
    obtain ⟨h1, h2, hd⟩ := List.nodup_append.mp hn
    exact (ihp h1 s).bind (fun a t _ => ihk a h2 t) (fun _ e => hS.mono e fun _ => List.mem_append_left _)
      (fun _ _ e1 e2 => hS.append e1 e2 fun g g1 g2 => hd g g1 g g2 rfl)
  | @attempt vals _ _ _ N2 _ _ ihp ihk =>
    intro hn s
    obtain ⟨h1, h2, hd⟩ := List.nodup_append.mp hn
    have hd' : ∀ g ∈ _, g ∉ N2 := fun g g1 g2 => hd g g1 g g2 rfl
    exact Tr.msgCatch c.abort _ _ _ vals (ihp h1 s) (fun v t _ => ihk v h2 t) (fun _ e => hS.mono e fun _ => List.mem_append_left _)
      (fun _ w e => hS.append e (hS.of_gw N2 (GW.cons_w w GW.nil)) hd') (fun _ _ e1 e2 => hS.append e1 e2 hd')
  | cond _ _ ihp ihq =>
    intro hn s
    simp only [Prog.run]
    split
    · exact ihp hn s
    · exact ihq hn s
  | mono _ hs ih => exact fun hn s => (ih (hs.nodup hn) s).mono fun _ e => hS.mono e hs.subset

/-- the slots of a command and of a response, in the order in which they are written -/
def Prog.cmdSlots := ["tag", "commandSize", "commandCode", "handles", "authSize", "authorizationArea", "parameters"]
def Prog.rspSlots := ["tag", "responseSize", "responseCode", "handles", "parameterSize", "parameters", "authorizationArea"]

theorem Prog.cmdSlots_nodup : cmdSlots.Nodup := by simp [cmdSlots]
theorem Prog.rspSlots_nodup : rspSlots.Nodup := by simp [rspSlots]

namespace Prog.In

theorem quiet {α β : Type} {p : Prog α} {k : α → Prog β} {N : List String} (hp : p.In []) (hk : ∀ a, (k a).In N) :
    (Prog.bind p k).In N := bind hp hk

theorem hdr {vals : List (String × Val)} {f : HField} {k : Val → Prog Val} {N : List String} (hk : ∀ v, (k v).In N) :
    (Prog.hdr vals f k).In (f.name :: N) := attempt (N1 := [f.name]) (leaf rfl) hk

theorem cmdTail (cc : Int) (vals : List (String × Val)) (enc : Bool) : (Prog.cmdTail cc vals enc).In ["parameters"] :=
  attempt (N1 := ["parameters"]) (leaf rfl) fun _ => quiet (leaf rfl) fun _ => pure _

theorem cmdBody : Prog.cmdBody.In cmdSlots :=
  hdr fun tag => hdr fun csz => quiet (check _) fun n => quiet (leaf rfl) fun _ => hdr fun ccv =>
  attempt (N1 := ["handles"]) (leaf rfl) fun hv =>
  cond
    (hdr fun asz => quiet (check _) fun an => quiet (leaf rfl) fun _ =>
     attempt (N1 := ["authorizationArea"]) (leaf rfl) fun area => quiet (check _) fun enc => cmdTail ..)
    (mono (cmdTail ..) (.cons _ (List.sublist_cons_self ..)))

theorem rspFinish (vals : List (String × Val)) : (Prog.rspFinish vals).In [] :=
  quiet (leaf rfl) fun _ => quiet (check _) fun _ => pure _

theorem rspParams (cc : Option Int) (encFlag : Bool) (tag : Val) (vals : List (String × Val)) :
    (Prog.rspParams cc encFlag tag vals).In ["parameters", "authorizationArea"] :=
  attempt (N1 := ["parameters"])
    (bind (N1 := ["parameters"]) (N2 := []) (leaf rfl) fun pv => cond (quiet (leaf rfl) fun _ => pure _) (pure _))
    fun pv => cond (mono (rspFinish _) (List.nil_sublist _)) <|
      attempt (N1 := ["authorizationArea"]) (leaf rfl) fun area => quiet (check _) fun expected =>
      cond (check _) (quiet (check _) fun _ => pure _)

theorem rspBody (cc : Option Int) (encFlag : Bool) : (Prog.rspBody cc encFlag).In rspSlots :=
  hdr fun tag => hdr fun rsz => quiet (check _) fun n => quiet (leaf rfl) fun _ => hdr fun rcv =>
  cond (mono (rspFinish _) (List.nil_sublist _)) <|
  attempt (N1 := ["handles"]) (leaf rfl) fun hv =>
  cond (hdr fun psz => quiet (check _) fun pn => quiet (leaf rfl) fun _ => rspParams ..) (mono (rspParams ..) (List.sublist_cons_self ..))

end Prog.In

theorem Tr.msgRoot {c : Cfg} {P Q : List Event → Prop} {p : Prog Val} (h : ∀ s, Tr P s (p.run c s))
    (hq : ∀ E, P E → Q (.marshal ⟨c.path, .named c.name false, none, "", 0⟩ :: E)) (s0 : St) :
    Tr Q s0 ((Prog.bind (.leaf .start) fun _ => p).run c s0) :=
  Tr.of_scs [⟨c.own, [], 0, none⟩] (Tr.of_emit _ (h _) hq)

theorem GM1.root {σ : Path} {N : List String} {E : List Event} (name : String) (h : GN okc σ N E) :
    GM1 okc σ (.marshal ⟨σ, .named name false, none, "", 0⟩ :: E) :=
  ⟨GD.of_parent _ rfl (fun n => named_ne_list _ _ n) rfl h, _, _, rfl, rfl, fun m hm heq => by
    obtain ⟨⟨g, i, r, _, hp⟩, _⟩ := h.1 m hm
    have := congrArg List.length (hp.symm.trans heq)
    simp at this⟩

theorem Leaf.run_gn {c : Cfg} (hpk : PrimLink c.abort pk okc) (h : c.tb.shapeOk pk = true) {α : Type} (l : Leaf α)
    (N : List String) (s : St) (hN : l.writes = some N) : Tr (GN okc c.path N) s (l.run c s) := by
  cases l with
  | start => cases hN
  | field f => cases hN; exact (readPrim_gd c.abort hpk _ (MsgTables.shapeOk_prim h f) _ s).mono fun _ => GN.of_GD
  | setOwn f n => exact (setListed_gw ..).mono fun _ => GN.of_gw _ _
  | openInner f n => exact (openRegion_gw ..).mono fun _ => GN.of_gw _ _
  | done inner => exact (assertDone_gw ..).mono fun _ => GN.of_gw _ _
  | area w key enc name =>
    cases hN
    simp only [Leaf.run]
    split
    · exact Tr.quiet rfl (GN.of_gw _ _ GW.nil)
    · rename_i t ht
      obtain ⟨k, rfl⟩ : ∃ k, key = some k := by cases key <;> simp at ht ⊢
      exact (decodeArea_gd c.abort hpk c.tb enc t (lookupTy_areaOk h ht) _ s).mono fun _ => GN.of_GD
  | sessions rsp =>
    cases hN
    unfold MsgTables.shapeOk at h
    simp only [Bool.and_eq_true, decide_eq_true_eq] at h
    cases rsp
    · exact decodeSized_gn c.abort hpk _ h.1.1.1.1.2 h.1.1.1.2 ..
    · exact decodeSized_gn c.abort hpk _ h.1.1.2 h.1.2 ..

theorem decodeCommand_gd (hpk : PrimLink abort pk okc) (tb : MsgTables) (h : tb.shapeOk pk = true) (σ : Path) (s0 : St) :
    Tr (GM1 okc σ) s0 (decodeCommand abort tb σ s0) := by
  rw [decodeCommand_eq_run]
  exact Tr.msgRoot (Prog.In.cmdBody.tr (GN.slotted σ) (Leaf.run_gn (c := ⟨abort, tb, σ, s0.pos, "Command"⟩) hpk h) Prog.cmdSlots_nodup)
    (fun _ => GM1.root _) s0

theorem decodeResponse_gd (hpk : PrimLink abort pk okc) (tb : MsgTables) (h : tb.shapeOk pk = true) (cc : Option Int) (encFlag : Bool) (σ : Path) (s0 : St) :
    Tr (GM1 okc σ) s0 (decodeResponse abort tb cc encFlag σ s0) := by
  rw [decodeResponse_eq_run]
  exact Tr.msgRoot
    ((Prog.In.rspBody cc encFlag).tr (GN.slotted σ) (Leaf.run_gn (c := ⟨abort, tb, σ, s0.pos, "Response"⟩) hpk h) Prog.rspSlots_nodup)
    (fun _ => GM1.root _) s0

/-! ## the stream loop and the top level -/

/-- the stream loop, for a predicate that holds of every message and is closed under append -/
theorem decodeStream_each {M : List Event → Prop} (tb : MsgTables) (σ : Path) (hnil : M [])
    (hroot : ∀ name, M [.marshal ⟨σ, .named name false, none, "", 0⟩]) (happ : ∀ {E1 E2}, M E1 → M E2 → M (E1 ++ E2))
    (hcmd : ∀ s, Tr M s (decodeCommand abort tb σ s)) (hrsp : ∀ cc enc s, Tr M s (decodeResponse abort tb cc enc σ s)) :
    ∀ (fuel : Nat) (s : St), Tr M s (decodeStream abort tb σ fuel s) := by
  intro fuel
  induction fuel with
  | zero => intro s; exact Tr.quiet rfl hnil
  | succ n ih =>
    intro s
    unfold decodeStream
    split
    · exact Tr.ok_emit1 _ _ _ (hroot _)
    · refine (hcmd s).bind (fun cmd t _ => ?_) (fun _ hh => hh) (fun _ _ => happ)
      split
      · exact Tr.quiet rfl hnil
      · split
        · exact Tr.ok_emit1 _ _ _ (hroot _)
        · exact (hrsp _ _ t).bind (fun _ t2 _ => ih t2) (fun _ hh => hh) (fun _ _ => happ)

theorem decodeStream_gm (hpk : PrimLink abort pk okc) (tb : MsgTables) (h : tb.shapeOk pk = true) (σ : Path) (hσ : σ ≠ []) :
    ∀ (fuel : Nat) (s : St), Tr (GM okc σ) s (decodeStream abort tb σ fuel s) :=
  decodeStream_each abort tb σ ⟨GD.of_gw σ GW.nil, Or.inl rfl⟩
    (fun name => ⟨GD.single _ rfl (fun n => named_ne_list _ _ n) (fun hs => by cases hs), Or.inr ⟨_, _, rfl, rfl⟩⟩)
    (fun h1 h2 => h1.append hσ h2) (fun s => (decodeCommand_gd abort hpk tb h σ s).mono fun _ => GM1.toGM)
    (fun cc enc s => (decodeResponse_gd abort hpk tb h cc enc σ s).mono fun _ => GM1.toGM)

theorem runWalker_gd (hpk : PrimLink abort pk okc) (tb : MsgTables) (h : tb.shapeOk pk = true) (top : Top)
    (htop : ∀ t, top = .ty t → t.shapeOk pk = true) (x : List Byte) :
    Tr (GD okc rootPath) (initSt x) (runWalker abort tb top x) := by
  unfold runWalker
  cases top with
  | ty t => exact decode_gd abort hpk t (htop t rfl) rootPath none _
  | command => exact (decodeCommand_gd abort hpk tb h rootPath _).mono (fun _ hh => hh.1)
  | response cc enc => exact (decodeResponse_gd abort hpk tb h cc enc rootPath _).mono (fun _ hh => hh.1)
  | stream => exact (decodeStream_gm abort hpk tb h rootPath (by simp [rootPath]) _ _).mono (fun _ hh => hh.1)
end
