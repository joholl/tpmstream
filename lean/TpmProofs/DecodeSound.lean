import TpmProofs.DecodeOk
import TpmProofs.Prog
/-!
# Soundness of acceptance: whatever the strict walker accepts conforms to the layout

The converse of `decode_ok`: if `decode true t path sel s = .ok (v, s')` then `v` conforms to `t`
(`spec t path sel v = some (bs, evs)`), the bytes consumed are exactly its encoding `bs`, the events emitted are
exactly the dictated ones, and every enclosing region was charged exactly `bs.length`.  In particular every size
field equals the length of what it governs and every value is in its declared set (that is what `spec` demands).
Together with `decode_ok`: strict acceptance ⇔ conformance, with the same observable result.

The proof is one walk through the walker (`decode_tol`) for any property of its result that tolerates the documented
errors (`Tol`); the same walk, under the static side conditions `Ty.total`, shows that no internal error occurs
(`decode_nc` in `NoCrash.lean`), so those conditions and `NC` are defined here.

`Snd g s s'` (the walker went from `s` to `s'` as the specification result `g` dictates), `Ran s s' bs evs` (its state part),
`VOK`/`VRel` (the values decoded so far fit the declared fields: what crash-freedom needs of counts and selectors).
-/

/-- the walker went from `s` to `s'` exactly as the specification result `g` dictates -/
def Snd (g : Option (List Byte × List SEv)) (s s' : St) : Prop :=
  ∃ bs evs, g = some (bs, evs) ∧ s.inp = bs ++ s'.inp ∧ s'.pos = s.pos + bs.length ∧
    s'.out = s.out ++ stamp s.pos evs ∧ s'.scs = bump s.scs bs.length

def Ran (s s' : St) (bs : List Byte) (evs : List SEv) : Prop :=
  s.inp = bs ++ s'.inp ∧ s'.pos = s.pos + bs.length ∧ s'.out = s.out ++ stamp s.pos evs ∧ s'.scs = bump s.scs bs.length

theorem Ran.append {s s1 s2 : St} {b bs : List Byte} {e es : List SEv} (h1 : Ran s s1 b e) (h2 : Ran s1 s2 bs es) :
    Ran s s2 (b ++ bs) (e ++ shift b.length es) := by
  obtain ⟨i1, p1, o1, c1⟩ := h1
  obtain ⟨i2, p2, o2, c2⟩ := h2
  refine ⟨?_, ?_, ?_, ?_⟩
  · rw [i1, i2, List.append_assoc]
  · rw [p2, p1, List.length_append, Nat.add_assoc]
  · rw [o2, o1, p1, stamp_append, stamp_shift, List.append_assoc]
  · rw [c2, c1, bump_bump, List.length_append]

theorem Ran.root {m : MEvent} {s s' : St} {b : List Byte} {e : List SEv} (h : Ran (emitM m s) s' b e) :
    Ran s s' b ((0, m) :: e) := by
  obtain ⟨i1, p1, o1, c1⟩ := h
  exact ⟨i1, p1, by rw [o1]; simp [emitM, emit, stamp_cons], c1⟩

theorem Ran.nil {s : St} : Ran s s [] [] := ⟨rfl, rfl, by simp, by simp⟩

theorem Ran.inner {s s' : St} {b : List Byte} {e : List SEv} {c : SC} (r : Ran { s with scs := s.scs ++ [c] } s' b e) :
    Ran s { s' with scs := bump s.scs b.length } b e := ⟨r.1, r.2.1, r.2.2.1, rfl⟩

theorem Ran.fresh {s s' : St} {b : List Byte} {e : List SEv} (h : Ran s s' b e) (hf : Fresh s.scs s.pos) :
    Fresh s'.scs s'.pos := by
  rw [h.2.2.2, h.2.1]; exact fresh_bump hf

theorem Ran.ids_ne {s s' : St} {b : List Byte} {e : List SEv} (r : Ran s s' b e) (hf : Fresh s.scs s.pos) (hb : 0 < b.length)
    (j : Nat) : ∀ d ∈ bump s'.scs j, d.id ≠ s'.pos := by
  rw [r.2.2.2, bump_bump, r.2.1]; exact ids_ne_of_fresh hf hb

theorem bind_ok_inv {α β : Type} {r : R α} {f : α → St → R β} {x : β × St} (h : r.bind f = .ok x) :
    ∃ a t, r = .ok (a, t) ∧ f a t = .ok x := by
  cases r with
  | error e => simp [R.bind] at h
  | ok at' => obtain ⟨a, t⟩ := at'; exact ⟨a, t, rfl, by simpa [R.bind] using h⟩

theorem bind_error_inv {α β : Type} {r : R α} {f : α → St → R β} {x : Err × St} (h : r.bind f = .error x) :
    r = .error x ∨ ∃ a t, r = .ok (a, t) ∧ f a t = .error x := by
  cases r with
  | error e => exact Or.inl (by rw [R.bind_error, Except.error.injEq] at h; rw [h])
  | ok at' => exact Or.inr ⟨at'.1, at'.2, rfl, h⟩

theorem bytesParsed_ok_inv {path : Path} {n : Nat} {s s' : St} (h : bytesParsed path n s = .ok ((), s')) :
    s' = { s with scs := bump s.scs n } :=
  bpGo_ok_inv h

theorem inRange_ofBytes (size : Nat) (signed : Bool) (bs : List Byte) (h : bs.length = size) (hs : signed = true → 0 < size) :
    inRange size signed (intOfBytes size signed bs) = true := by
  have hlt := fromBE_lt_size h
  unfold inRange intOfBytes
  cases signed with
  | false =>
    simp only [Bool.false_and, Bool.false_eq_true, if_false, Bool.and_eq_true, decide_eq_true_eq]
    exact ⟨by omega, by exact_mod_cast hlt⟩
  | true =>
    have hpos := hs rfl
    have hsplit := two_pow_split size hpos
    generalize 2 ^ (8 * size - 1) = A at hsplit ⊢
    generalize 2 ^ (8 * size) = B at hsplit hlt ⊢
    generalize fromBE bs = n at hlt ⊢
    simp only [Bool.true_and, if_true, Bool.and_eq_true, decide_eq_true_eq]
    by_cases hge : A ≤ n
    · simp only [hge, if_true]
      exact ⟨⟨hpos, by omega⟩, by omega⟩
    · simp only [hge, if_false]
      exact ⟨⟨hpos, by omega⟩, by omega⟩

/-! ## table well-formedness the converse needs -/

def Prim.wf (p : Prim) : Bool := !p.signed || decide (0 < p.size)

mutual
def Ty.wf : Ty → Bool
  | .prim p => p.wf
  | .struct _ _ fs => fs.wf
  | .tpm2bBytes _ _ szP _ elem => szP.wf && decide (0 < szP.size) && elem.wf && decide (elem.size = 1)
  | .tpm2b _ _ szP _ body => szP.wf && decide (0 < szP.size) && body.wf
  | .union _ arms => arms.wf
  | .bad _ => true
def Fields.wf : Fields → Bool
  | .nil => true
  | .cons _ _ t rest => t.wf && rest.wf
def Arms.wf : Arms → Bool
  | .nil => true
  | .consNone _ _ rest => rest.wf
  | .cons _ _ t rest => t.wf && rest.wf
  | .consBytes _ _ elem _ rest => elem.wf && rest.wf
end

theorem openRegion_ok_inv {id : Nat} {cpath : Path} {n : Nat} {s s' : St} (h : openRegion true id cpath n s = .ok ((), s')) :
    s' = { s with scs := s.scs ++ [⟨id, cpath, 0, some n⟩] } := by
  unfold openRegion at h
  obtain ⟨_, s1, h1, h⟩ := bind_ok_inv h
  unfold anticipateM at h1
  split at h1
  · simp only [Except.ok.injEq, Prod.mk.injEq, true_and] at h1 h
    subst h1; exact h.symm
  · simp at h1

theorem assertDone_ok_inv {id : Nat} {s s' : St} (h : assertDone true id s = .ok ((), s')) :
    ∃ c m, findSC id s.scs = some c ∧ c.max = some m ∧ c.already = m ∧ s' = { s with scs := removeSC id s.scs } := by
  unfold assertDone at h
  split at h
  · simp [crash] at h
  · rename_i c hc
    unfold assertDoneSC at h
    split at h
    · simp [crash] at h
    · rename_i m hm
      split at h
      · rename_i heq
        simp only [Except.ok.injEq, Prod.mk.injEq, true_and] at h
        exact ⟨c, m, hc, hm, heq, h.symm⟩
      · simp at h

/-- closing the region opened last: it is found, it is exactly full, and it leaves -/
theorem assertDone_last_inv {id : Nat} {pre : List SC} {c : SC} {s s' : St} (hs : s.scs = pre ++ [c]) (hid : c.id = id)
    (hpre : ∀ d ∈ pre, d.id ≠ id) (h : assertDone true id s = .ok ((), s')) :
    c.max = some c.already ∧ s' = { s with scs := pre } := by
  obtain ⟨c', m, hf, hm, ha, hs'⟩ := assertDone_ok_inv h
  rw [hs, findSC_last id pre c hid hpre] at hf
  simp only [Option.some.injEq] at hf
  subst hf
  rw [hs, removeSC_last id pre c hid hpre] at hs'
  exact ⟨by rw [hm, ha], hs'⟩

def NC {α : Type} (r : R α) : Prop := ∀ c m s, r ≠ .error (.crash c m, s)

theorem NC.ok {α : Type} (a : α) (s : St) : NC (.ok (a, s) : R α) := by intro c m t h; cases h

theorem NC.error_ne {α : Type} {e : Err} {s : St} (h : ∀ c m, e ≠ .crash c m) : NC (.error (e, s) : R α) := by
  intro c m t hh
  simp only [Except.error.injEq, Prod.mk.injEq] at hh
  exact h c m hh.1

/-- A property of a walker's result that every failure other than an internal error has, and — unless `noCrash` —
internal errors too.  `NC` (with `noCrash`) and "if it succeeds, then …" (without) are such properties, so that one walk
through a walker, with the rules below, yields both its absence of internal errors under the static side conditions
and the soundness of its acceptance without them. -/
structure Tol (noCrash : Prop) {β : Type} (X : R β → Prop) : Prop where
  err : ∀ e s, (∀ c m, e ≠ .crash c m) → X (.error (e, s))
  crash : ¬ noCrash → ∀ c m s, X (.error (.crash c m, s))

theorem Tol.nc {β : Type} : Tol True (NC : R β → Prop) := ⟨fun _ _ h => NC.error_ne h, fun h => absurd trivial h⟩

theorem Tol.sound {β : Type} (Q : β → St → Prop) : Tol False fun r : R β => ∀ v s', r = .ok (v, s') → Q v s' :=
  ⟨fun _ _ _ _ _ h => (nomatch h), fun _ _ _ _ _ _ h => (nomatch h)⟩

theorem Tol.comp {noCrash : Prop} {β γ : Type} {X : R γ → Prop} (T : Tol noCrash X) (k : β → St → R γ) :
    Tol noCrash fun r : R β => X (r.bind k) := ⟨fun e s h => T.err e s h, fun h c m s => T.crash h c m s⟩

theorem Tol.bind {noCrash : Prop} {β : Type} {X : R β → Prop} (T : Tol noCrash X) {α : Type} {r : R α} {f : α → St → R β}
    (hnc : noCrash → NC r) (hf : ∀ a t, r = .ok (a, t) → X (f a t)) : X (r.bind f) := by
  cases r with
  | ok at' => exact hf at'.1 at'.2 rfl
  | error es =>
    obtain ⟨e, s⟩ := es
    by_cases hs : noCrash
    · exact T.err e s fun c m he => hnc hs c m s (by rw [he])
    · cases e with
      | crash c m => exact T.crash hs c m s
      | _ => exact T.err _ s (fun c m he => (nomatch he))

theorem NC.bind {α β : Type} {r : R α} {f : α → St → R β} (h : NC r) (hf : ∀ a t, r = .ok (a, t) → NC (f a t)) :
    NC (r.bind f) := Tol.nc.bind (fun _ => h) hf

theorem take_nc (n : Nat) (s : St) : NC (take n s) := by
  unfold take; split
  · intro c m t h; simp at h
  · exact NC.ok _ _

theorem consume_nc (n : Nat) (s : St) : NC (consume n s) := by
  unfold consume; exact (take_nc n s).bind fun _ t _ => NC.ok _ _

theorem bpGo_nc (path : Path) (size : Nat) (todo done : List SC) (s : St) : NC (bpGo path size done todo s) := by
  rcases bpGo_cases path size todo done with e | ⟨_, _, _, _, _, e⟩ <;> rw [e]
  · exact NC.ok _ _
  · exact (consume_nc _ _).bind fun _ t _ => NC.error_ne fun _ _ h => nomatch h

theorem readPrim_nc (p : Prim) (path : Path) (s : St) : NC (readPrim true p path s) := by
  unfold readPrim
  refine (bpGo_nc path p.size s.scs [] s).bind fun _ t _ => ?_
  refine (take_nc p.size t).bind fun bs t2 _ => ?_
  simp only []
  split
  · exact NC.ok _ _
  · simp only [if_true]; intro c m t' h; simp at h

theorem anticipateM_nc (vpath : Path) (v id : Nat) (s : St) : NC (anticipateM true vpath v id s) := by
  unfold anticipateM
  split
  · exact NC.ok _ _
  · rename_i e he
    simp only [if_true]
    intro c m t h
    simp only [Except.error.injEq, Prod.mk.injEq] at h
    -- `anticipate` only ever produces `anticipated`
    have : ∀ (scs : List SC) e, anticipate vpath v id scs = some e → ∀ c m, e ≠ .crash c m := by
      intro scs
      induction scs with
      | nil => intro e h; simp [anticipate] at h
      | cons d rest ih =>
        intro e h c m
        unfold anticipate at h
        split at h
        · exact ih e h c m
        · split at h
          · simp only [Option.some.injEq] at h; subst h; intro hh; cases hh
          · exact ih e h c m
    exact this _ _ he c m h.1

theorem openRegion_nc (id : Nat) (cpath : Path) (n : Nat) (s : St) : NC (openRegion true id cpath n s) := by
  unfold openRegion
  exact (anticipateM_nc cpath n id s).bind fun _ t _ => NC.ok _ _

theorem setListed_nc (id : Nat) (cpath : Path) (n : Nat) (s : St) : NC (setListed true id cpath n s) := by
  unfold setListed
  exact anticipateM_nc cpath n id _

theorem assertDoneSC_nc (c : SC) (s : St) (m : Nat) (hm : c.max = some m) : NC (assertDoneSC true c s) := by
  unfold assertDoneSC
  simp only [hm]
  split
  · exact NC.ok _ _
  · simp only [if_true]; intro c' m' t h; simp at h

theorem assertDone_last_nc {id : Nat} {pre : List SC} {c : SC} {s : St} {m : Nat} (hs : s.scs = pre ++ [c]) (hid : c.id = id)
    (hpre : ∀ d ∈ pre, d.id ≠ id) (hm : c.max = some m) : NC (assertDone true id s) := by
  unfold assertDone
  rw [hs, findSC_last id pre c hid hpre]
  exact assertDoneSC_nc c _ m hm

theorem readPrim_sound {p : Prim} (hwf : p.wf = true) {path : Path} {s s' : St} {v : Val}
    (h : readPrim true p path s = .ok (v, s')) : Snd (specPrim p path v) s s' := by
  unfold readPrim at h
  obtain ⟨_, s1, hb, h⟩ := bind_ok_inv h
  obtain ⟨bs, s2, ht, h⟩ := bind_ok_inv h
  have hs1 := bytesParsed_ok_inv hb
  obtain ⟨hlen, hinp, hs2⟩ := take_ok_inv ht
  simp only [] at h
  split at h
  · rename_i hvalid
    simp only [Except.ok.injEq, Prod.mk.injEq] at h
    obtain ⟨rfl, rfl⟩ := h
    have hr : inRange p.size p.signed (p.ofBytes bs) = true :=
      inRange_ofBytes p.size p.signed bs hlen (by
        intro hsg; simp only [Prim.wf, hsg, Bool.not_true, Bool.false_or, decide_eq_true_eq] at hwf; exact hwf)
    have hbytes : intToBytes p.size (p.ofBytes bs) = bs := intToBytes_intOfBytes p.size p.signed bs hlen
    refine ⟨bs, [(p.size, ⟨path, .named p.name false, some (p.ofBytes bs), p.name, p.size⟩)], ?_, ?_, ?_, ?_, ?_⟩
    · simp only [specPrim, Val.asIntOf, if_true, hvalid, hr, Bool.and_self, hbytes]
    · rw [hs1] at hinp; simpa [emitM, emit] using hinp
    · rw [hs2, hs1]; simp [emitM, emit, hlen]
    · rw [hs2, hs1]; simp [emitM, emit, stamp]
    · rw [hs2, hs1]; simp [emitM, emit, hlen]
  · simp at h

/-! ## static side conditions -/

def Ty.isPrim : Ty → Bool
  | .prim _ => true
  | _ => false

/-- may be decoded without a selector value: a union needs a fallback member for that -/
def Ty.okNoSel : Ty → Bool
  | .union _ arms => (selectArm arms.keys none).isSome
  | _ => true

mutual
def Ty.total : Ty → Bool
  | .prim _ => true
  | .struct _ _ fs => fs.total none []
  | .tpm2bBytes _ _ szP _ _ => !szP.signed
  | .tpm2b _ _ szP _ body => !szP.signed && body.total && body.okNoSel
  | .union _ arms => arms.total
  | .bad _ => false
termination_by structural t => t
/-- `lastNC`: is the last field that is not a list an integer field; `seen`: earlier fields (name, is a plain integer) -/
def Fields.total (lastNC : Option Bool) (seen : List (String × Bool)) : Fields → Bool
  | .nil => true
  | .cons f kind t rest =>
    t.total &&
    (match kind with
     | .plain => t.okNoSel
     | .selected sel => (seen.find? (·.1 == sel)).map (·.2) == some true
     | .counted => t.okNoSel && lastNC == some true) &&
    (match kind with
     | .counted => rest.total lastNC (seen ++ [(f, false)])
     | .plain => rest.total (some t.isPrim) (seen ++ [(f, t.isPrim)])
     | .selected _ => rest.total (some false) (seen ++ [(f, false)]))
termination_by structural fs => fs
def Arms.total : Arms → Bool
  | .nil => true
  | .consNone _ _ rest => rest.total
  | .cons _ _ t rest => t.total && t.okNoSel && rest.total
  | .consBytes _ _ _ n rest => n.isSome && rest.total
termination_by structural arms => arms
end

/-! ## what the values decoded so far look like -/

inductive VRel : List (String × Val) → List (String × Bool) → Prop
  | nil : VRel [] []
  | cons {v : String × Val} {s : String × Bool} {vals : List (String × Val)} {seen : List (String × Bool)} :
      v.1 = s.1 → (s.2 = true → ∃ cls x, v.2 = .int cls x) → VRel vals seen → VRel (v :: vals) (s :: seen)

def VOK (vals : List (String × Val)) (lastNC : Option Bool) (seen : List (String × Bool)) : Prop :=
  (lastNC = some true → ∃ cls x, lastNonList vals = some (.int cls x)) ∧ VRel vals seen

theorem VOK.nil : VOK [] none [] := ⟨(by intro h; cases h), VRel.nil⟩

theorem vrel_snoc {vals : List (String × Val)} {seen : List (String × Bool)} {v : String × Val} {s : String × Bool}
    (h : VRel vals seen) (h1 : v.1 = s.1) (h2 : s.2 = true → ∃ cls x, v.2 = .int cls x) :
    VRel (vals ++ [v]) (seen ++ [s]) := by
  induction h with
  | nil => exact VRel.cons h1 h2 VRel.nil
  | cons a b _ ih => exact VRel.cons a b ih

theorem lastNonList_snoc_list (vals : List (String × Val)) (f : String) (vs : List Val) :
    lastNonList (vals ++ [(f, .list vs)]) = lastNonList vals := by
  simp [lastNonList, List.reverse_append, Val.isList]

theorem lastNonList_snoc_int (vals : List (String × Val)) (f : String) (c : String) (x : Int) :
    lastNonList (vals ++ [(f, .int c x)]) = some (.int c x) := by
  simp [lastNonList, List.reverse_append, Val.isList]

theorem VOK.snoc_list {vals : List (String × Val)} {l : Option Bool} {seen : List (String × Bool)} (h : VOK vals l seen)
    (f : String) (vs : List Val) : VOK (vals ++ [(f, .list vs)]) l (seen ++ [(f, false)]) :=
  ⟨by rw [lastNonList_snoc_list]; exact h.1, vrel_snoc h.2 rfl (by intro hh; cases hh)⟩

theorem VOK.snoc {vals : List (String × Val)} {l : Option Bool} {seen : List (String × Bool)} (h : VOK vals l seen)
    (f : String) {v : Val} {b : Bool} (hb : b = true → ∃ cls x, v = .int cls x) :
    VOK (vals ++ [(f, v)]) (some b) (seen ++ [(f, b)]) := by
  refine ⟨fun hl => ?_, vrel_snoc h.2 rfl hb⟩
  obtain ⟨c, x, rfl⟩ := hb (Option.some.inj hl)
  exact ⟨c, x, lastNonList_snoc_int ..⟩

theorem VOK.snoc_other {vals : List (String × Val)} {l : Option Bool} {seen : List (String × Bool)} (h : VOK vals l seen)
    (f : String) (v : Val) : VOK (vals ++ [(f, v)]) (some false) (seen ++ [(f, false)]) :=
  h.snoc f fun hh => nomatch hh

theorem VOK.count {vals : List (String × Val)} {seen : List (String × Bool)} (h : VOK vals (some true) seen) :
    ∃ c, countOf vals = .count c := by
  obtain ⟨cls, x, hl⟩ := h.1 rfl
  exact ⟨x.toNat, by simp [countOf, hl]⟩

theorem VOK.sel {vals : List (String × Val)} {l : Option Bool} {seen : List (String × Bool)} (h : VOK vals l seen)
    {sel : String} (hs : (seen.find? (·.1 == sel)).map (·.2) = some true) : ∃ x, selOf vals sel = .sel (some x) := by
  have : ∃ cls x, lookupVal vals sel = some (.int cls x) := by
    have h2 := h.2
    clear h
    induction h2 with
    | nil => simp at hs
    | @cons v s vals' seen' hv1 hv2 _ ih =>
      simp only [List.find?_cons] at hs
      by_cases hn : (s.1 == sel) = true
      · simp only [hn, Option.map_some, Option.some.injEq] at hs
        obtain ⟨cls, x, hx⟩ := hv2 hs
        refine ⟨cls, x, ?_⟩
        have : (v.1 == sel) = true := by rw [hv1]; exact hn
        simp [lookupVal, this, hx]
      · have hn' : (s.1 == sel) = false := by simpa using hn
        simp only [hn'] at hs
        obtain ⟨cls, x, hx⟩ := ih hs
        refine ⟨cls, x, ?_⟩
        have : (v.1 == sel) = false := by rw [hv1]; exact hn'
        simpa [lookupVal, List.find?_cons, this] using hx
  obtain ⟨cls, x, hx⟩ := this
  exact ⟨x, by simp [selOf, hx]⟩

theorem intOfBytes_nonneg (size : Nat) (bs : List Byte) : 0 ≤ intOfBytes size false bs := by
  simp [intOfBytes]

theorem selectArm_mem {keys : List (String × Key)} {sel : Option Int} {an : String} (h : selectArm keys sel = some an) :
    an ∈ keys.map (·.1) := by
  unfold selectArm at h
  simp only [] at h
  split at h
  · rename_i a ha
    simp only [Option.some.injEq] at h
    subst h
    cases sel with
    | none => simp at ha
    | some sv =>
      simp only [] at ha
      have := List.mem_of_find?_eq_some ha
      exact List.mem_map.mpr ⟨a, by simpa using this, rfl⟩
  · simp only [Option.map_eq_some_iff] at h
    obtain ⟨a, ha, rfl⟩ := h
    have := List.mem_of_find?_eq_some ha
    exact List.mem_map.mpr ⟨a, by simpa using this, rfl⟩

/-! ## one walk through the strict walker

Each rule is in continuation form: a tolerant property `X` holds of `r.bind k` if it holds of `k` after every success
of `r`, given what that success says — the value conforms (`spec … = some (b, e)`) and the state went from `s` to `s1`
as `b` and `e` dictate (`Ran s s1 b e`).  The static side conditions are needed only where `X` does not tolerate
internal errors (`noCrash`).  `decode_sound` and `decode_nc` are the two instances. -/

theorem spec_isPrim {t : Ty} (ht : t.isPrim = true) {path : Path} {sel : Option Int} {v : Val} {b : List Byte} {e : List SEv}
    (g : spec t path sel v = some (b, e)) : ∃ cls x, v = .int cls x := by
  cases t with
  | prim p =>
    rw [spec] at g
    obtain ⟨x, rfl, _⟩ := specPrim_inv g
    exact ⟨_, x, rfl⟩
  | _ => simp [Ty.isPrim] at ht

section
variable {noCrash : Prop} {β : Type} {X : R β → Prop} (T : Tol noCrash X)
include T

theorem readPrim_tol {p : Prim} (hwf : p.wf = true) {path : Path} {s : St} {k : Val → St → R β}
    (hk : ∀ v s1 b e, specPrim p path v = some (b, e) → Ran s s1 b e → X (k v s1)) : X ((readPrim true p path s).bind k) := by
  refine T.bind (fun _ => readPrim_nc p path s) fun v s1 h => ?_
  obtain ⟨b, e, g, r⟩ := readPrim_sound hwf h
  exact hk v s1 b e g r

/-- a size that conforms is not negative where the size field is unsigned -/
theorem negSize_tol {p : Prim} {q : Path} {x : Int} {b : List Byte} {e : List SEv}
    (g : specPrim p q (.int p.name x) = some (b, e)) (hu : noCrash → p.signed = false) (hx : x < 0) (c m : String) (s : St) :
    X (.error (.crash c m, s)) := by
  by_cases hs : noCrash
  · obtain ⟨_, hv, _, hr, _, _⟩ := specPrim_inv g
    cases hv
    simp [inRange, hu hs] at hr
    omega
  · exact T.crash hs c m s

theorem openRegion_tol {id : Nat} {cpath : Path} {n : Nat} {s : St} {k : Unit → St → R β}
    (hk : X (k () { s with scs := s.scs ++ [⟨id, cpath, 0, some n⟩] })) : X ((openRegion true id cpath n s).bind k) := by
  refine T.bind (fun _ => openRegion_nc _ _ _ _) fun _ s1 h => ?_
  rw [openRegion_ok_inv h]; exact hk

theorem assertDone_tol {id : Nat} {pre : List SC} {c : SC} {m : Nat} {s : St} {k : Unit → St → R β} (hs : s.scs = pre ++ [c])
    (hid : c.id = id) (hpre : ∀ d ∈ pre, d.id ≠ id) (hm : c.max = some m) (hk : c.already = m → X (k () { s with scs := pre })) :
    X ((assertDone true id s).bind k) := by
  refine T.bind (fun _ => assertDone_last_nc hs hid hpre hm) fun _ s1 h => ?_
  obtain ⟨hfull, rfl⟩ := assertDone_last_inv hs hid hpre h
  exact hk (Option.some.inj (hm.symm.trans hfull)).symm

omit T in
theorem repeat_tol {f : Path → St → R Val} {g : Path → Val → Option (List Byte × List SEv)}
    (hf : ∀ p s (k : Val → St → R β), Fresh s.scs s.pos →
      (∀ v s1 b e, g p v = some (b, e) → Ran s s1 b e → X (k v s1)) → X ((f p s).bind k)) (path : Path) :
    ∀ (n i : Nat) (s : St) (k : List Val → St → R β), Fresh s.scs s.pos →
      (∀ vs s1 b e, vs.length = n → specRepeat g path vs i = some (b, e) → Ran s s1 b e → X (k vs s1)) →
      X ((repeatDec f path n i s).bind k)
  | 0, i, s, k, _, hk => hk [] s [] [] rfl rfl Ran.nil
  | n + 1, i, s, k, hfr, hk => by
    simp only [repeatDec, R.bind_assoc, R.bind_ok]
    refine hf _ s _ hfr fun v s1 b e gv r1 => ?_
    refine repeat_tol hf path n (i + 1) s1 _ (r1.fresh hfr) fun vs s2 bs es hl gr r2 => ?_
    exact hk (v :: vs) s2 _ _ (by rw [List.length_cons, hl]) (by simp only [specRepeat, gv, gr]) (r1.append r2)

theorem readPrimList_tol {p : Prim} (hwf : p.wf = true) {path : Path} {n : Nat} {s : St} {k : Val → St → R β}
    (hfr : Fresh s.scs s.pos)
    (hk : ∀ v s1 b e, specPrimList p path n v = some (b, e) → Ran s s1 b e → X (k v s1)) :
    X ((readPrimList true p path n s).bind k) := by
  simp only [readPrimList, R.bind_assoc, R.bind_ok]
  refine repeat_tol (f := readPrim true p) (g := specPrim p) (fun q s k _ hk => readPrim_tol T hwf hk) path n 0 _ _ hfr fun vs s1 b e hl g r => ?_
  exact hk (.list vs) s1 b _ (by simp only [specPrimList, Val.asList, hl, if_true, g, Option.map_some]) r.root

mutual
theorem decode_tol : (t : Ty) → t.wf = true → (noCrash → t.total = true) → ∀ (path : Path) (sel : Option Int) (s : St)
    (k : Val → St → R β), Fresh s.scs s.pos →
    (∀ v s1 b e, spec t path sel v = some (b, e) → Ran s s1 b e → X (k v s1)) → X ((decode true t path sel s).bind k)
  | .prim p, hwf, _, path, sel, s, k, _, hk => by
    simp only [decode]
    exact readPrim_tol T (by simpa [Ty.wf] using hwf) fun v s1 b e g r => hk v s1 b e (by rw [spec]; exact g) r
  | .struct name isP fs, hwf, htot, path, sel, s, k, hfr, hk => by
    simp only [decode, R.bind_assoc, R.bind_ok]
    refine fields_tol fs (by simpa [Ty.wf] using hwf) none [] (fun h => by simpa [Ty.total] using htot h) path [] _ _
      (fun _ => VOK.nil) hfr fun fvs s1 b e g r => ?_
    exact hk _ s1 b _ (by simp [spec, Val.asObj, g]) r.root
  | .tpm2bBytes name szName szP bufName elem, hwf, htot, path, sel, s, k, hfr, hk => by
    simp only [Ty.wf, Bool.and_eq_true, decide_eq_true_eq] at hwf
    obtain ⟨⟨⟨hwsz, hszpos⟩, hwel⟩, _⟩ := hwf
    simp only [decode, R.bind_assoc]
    refine readPrim_tol T hwsz fun nv s1 nb ne hsz r1 => ?_
    obtain ⟨x, rfl, _⟩ := specPrim_inv hsz
    have hnb : 0 < nb.length := by rw [specPrim_length hsz]; exact hszpos
    rw [show (Val.int szP.name x).asInt?.getD 0 = x from rfl]
    by_cases hx : x < 0
    · rw [if_pos hx]
      exact negSize_tol T hsz (fun h => by simpa [Ty.total] using htot h) hx ..
    · rw [if_neg hx]
      simp only [R.bind_assoc, R.bind_ok]
      refine openRegion_tol T ?_
      refine readPrimList_tol T hwel (fresh_append (r1.fresh hfr) (Nat.le_refl _)) fun bv s3 bb be hbody r3 => ?_
      refine assertDone_tol T (r3.2.2.2.trans (bump_append ..)) rfl (r1.ids_ne hfr hnb _) rfl fun hfull => ?_
      refine hk _ _ (nb ++ bb) _ ?_ (r1.append r3.inner).root
      simp only [SC.bump, Nat.zero_add] at hfull
      simp only [spec, Val.asObj, and_self, if_true, Option.bind_some, asPair, hsz, Val.asIntOf, hbody]
      simp [hszpos, hfull, Int.not_lt.mp hx]
  | .tpm2b name szName szP bufName body, hwf, htot, path, sel, s, k, hfr, hk => by
    simp only [Ty.wf, Bool.and_eq_true, decide_eq_true_eq] at hwf
    obtain ⟨⟨hwsz, hszpos⟩, hwb⟩ := hwf
    simp only [Ty.total, Bool.and_eq_true, Bool.not_eq_true'] at htot
    simp only [decode, ownCatch_true, R.bind_assoc]
    refine readPrim_tol T hwsz fun nv s1 nb ne hsz r1 => ?_
    obtain ⟨x, rfl, _⟩ := specPrim_inv hsz
    have hnb : 0 < nb.length := by rw [specPrim_length hsz]; exact hszpos
    rw [show (Val.int szP.name x).asInt?.getD 0 = x from rfl]
    by_cases hx : x < 0
    · rw [if_pos hx]
      exact negSize_tol T hsz (fun h => (htot h).1.1) hx ..
    · rw [if_neg hx]
      simp only [R.bind_assoc]
      refine openRegion_tol T ?_
      by_cases hxz : x = 0
      · -- empty body: the buffer event, then the region closes at once
        subst hxz
        rw [if_pos rfl]
        simp only [R.bind_assoc, R.bind_ok]
        refine assertDone_tol T (pre := s1.scs) rfl rfl (by simpa using r1.ids_ne hfr hnb 0) rfl fun _ => ?_
        refine hk _ _ nb ((0, ⟨path, .named name false, none, "", 0⟩) :: ne ++
          [(nb.length, ⟨path ++ [⟨bufName, none⟩], body.eventTag, none, "", 0⟩)]) ?_ ?_
        · simp only [spec, Val.asObj, and_self, if_true, Option.bind_some, asPair, hsz, Val.asIntOf]
          simp [Val.isNone, hszpos]
        · refine ⟨r1.1, r1.2.1, ?_, r1.2.2.2⟩
          show s1.out ++ [(s1.pos, _)] = _
          rw [r1.2.2.1, r1.2.1]
          simp [emitM, emit, stamp]
      · simp only [if_neg hxz, R.bind_assoc, R.bind_ok]
        refine decode_tol body hwb (fun h => (htot h).1.2) _ none _ _ (fresh_append (r1.fresh hfr) (Nat.le_refl _))
          fun bv s3 bb be hbody r3 => ?_
        refine assertDone_tol T (r3.2.2.2.trans (bump_append ..)) rfl (r1.ids_ne hfr hnb _) rfl fun hfull => ?_
        refine hk _ _ (nb ++ bb) _ ?_ (r1.append r3.inner).root
        simp only [SC.bump, Nat.zero_add] at hfull
        simp only [spec, Val.asObj, and_self, if_true, Option.bind_some, asPair, hsz, Val.asIntOf, hxz, if_false, hbody]
        simp [hszpos, hfull, Int.not_lt.mp hx]
  | .union name arms, hwf, htot, path, sel, s, k, hfr, hk => by
    simp only [decode]
    cases han : selectArm arms.keys sel with
    | none => cases sel <;> exact T.err _ _ fun _ _ h => nomatch h
    | some an =>
      refine arm_tol arms (by simpa [Ty.wf] using hwf) (fun h => by simpa [Ty.total] using htot h) name an path _ k
        (fun _ => selectArm_mem han) hfr fun v s1 b e g r => ?_
      exact hk v s1 b _ (by simp [spec, han, g]) r.root
  | .bad r, _, htot, path, sel, s, k, _, _ => by
    by_cases hs : noCrash
    · simpa [Ty.total] using htot hs
    · exact T.crash hs ..

theorem arm_tol : (arms : Arms) → arms.wf = true → (noCrash → arms.total = true) → ∀ (un want : String) (path : Path) (s : St)
    (k : Val → St → R β), (noCrash → want ∈ arms.keys.map (·.1)) → Fresh s.scs s.pos →
    (∀ v s1 b e, specArm arms un want path v = some (b, e) → Ran s s1 b e → X (k v s1)) →
    X ((decodeArm true arms un want path s).bind k)
  | .nil, _, _, un, want, path, s, k, hmem, _, _ => by
    by_cases hs : noCrash
    · simpa [Arms.keys] using hmem hs
    · exact T.crash hs ..
  | .consNone an key rest, hwf, htot, un, want, path, s, k, hmem, hfr, hk => by
    simp only [decodeArm]
    split
    · rename_i heq
      exact hk .none s [] [] (by simp [specArm, heq, Val.isNone]) Ran.nil
    · rename_i hne
      exact arm_tol rest (by simpa [Arms.wf] using hwf) (fun h => by simpa [Arms.total] using htot h) un want path s k
        (fun h => (List.mem_cons.mp (hmem h)).resolve_left fun e => hne e.symm) hfr
        fun v s1 b e g r => hk v s1 b e (by simpa [specArm, hne] using g) r
  | .cons an key t rest, hwf, htot, un, want, path, s, k, hmem, hfr, hk => by
    simp only [Arms.wf, Bool.and_eq_true] at hwf
    simp only [Arms.total, Bool.and_eq_true] at htot
    simp only [decodeArm]
    split
    · rename_i heq
      simp only [R.bind_assoc, R.bind_ok]
      refine decode_tol t hwf.1 (fun h => (htot h).1.1) _ none s _ hfr fun v s1 b e g r => ?_
      exact hk _ s1 b e (by simpa [specArm, heq, Val.asObj, asSingle] using g) r
    · rename_i hne
      exact arm_tol rest hwf.2 (fun h => (htot h).2) un want path s k
        (fun h => (List.mem_cons.mp (hmem h)).resolve_left fun e => hne e.symm) hfr
        fun v s1 b e g r => hk v s1 b e (by simpa [specArm, hne] using g) r
  | .consBytes an key elem n rest, hwf, htot, un, want, path, s, k, hmem, hfr, hk => by
    simp only [Arms.wf, Bool.and_eq_true] at hwf
    simp only [Arms.total, Bool.and_eq_true] at htot
    simp only [decodeArm]
    split
    · rename_i heq
      cases n with
      | none =>
        by_cases hs : noCrash
        · simpa using (htot hs).1
        · exact T.crash hs ..
      | some c =>
        simp only [readListArm, R.bind_assoc, R.bind_ok]
        refine readPrimList_tol T hwf.1 hfr fun v s1 b e g r => ?_
        exact hk _ s1 b e (by simpa [specArm, heq, Val.asObj, asSingle, specListArm] using g) r
    · rename_i hne
      exact arm_tol rest hwf.2 (fun h => (htot h).2) un want path s k
        (fun h => (List.mem_cons.mp (hmem h)).resolve_left fun e => hne e.symm) hfr
        fun v s1 b e g r => hk v s1 b e (by simpa [specArm, hne] using g) r

theorem fields_tol : (fs : Fields) → fs.wf = true → ∀ (l : Option Bool) (seen : List (String × Bool)),
    (noCrash → fs.total l seen = true) → ∀ (path : Path) (vals : List (String × Val)) (s : St)
    (k : List (String × Val) → St → R β), (noCrash → VOK vals l seen) → Fresh s.scs s.pos →
    (∀ fvs s1 b e, specFields fs path vals fvs = some (b, e) → Ran s s1 b e → X (k (vals ++ fvs) s1)) →
    X ((decodeFields true fs path vals s).bind k)
  | .nil, _, l, seen, _, path, vals, s, k, _, _, hk => by
    simpa [decodeFields] using hk [] s [] [] (by simp [specFields]) Ran.nil
  | .cons fname kind t rest, hwf, l, seen, htot, path, vals, s, k, hv, hfr, hk => by
    simp only [Fields.wf, Bool.and_eq_true] at hwf
    simp only [Fields.total, Bool.and_eq_true] at htot
    have htt : noCrash → t.total = true := fun h => (htot h).1.1
    simp only [decodeFields, R.bind_assoc]
    have rest_tol : ∀ v s1 b e l' seen', (noCrash → rest.total l' seen' = true) → (noCrash → VOK (vals ++ [(fname, v)]) l' seen') →
        specFieldWith (fun p sel v => spec t p sel v) t.name kind (path ++ [⟨fname, none⟩]) vals v = some (b, e) → Ran s s1 b e →
        X ((decodeFields true rest path (vals ++ [(fname, v)]) s1).bind k) := by
      intro v s1 b e l' seen' ht' hv' g r
      refine fields_tol rest hwf.2 l' seen' ht' path _ s1 k hv' (r.fresh hfr) fun fvs s2 bs es g2 r2 => ?_
      have := hk ((fname, v) :: fvs) s2 _ _ (by simp only [specFields, if_true, g, g2]) (r.append r2)
      simpa using this
    cases kind with
    | plain =>
      simp only [decodeFieldWith]
      refine decode_tol t hwf.1 htt _ none s _ hfr fun v s1 b e g r => ?_
      exact rest_tol v s1 b e (some t.isPrim) _ (fun h => (htot h).2)
        (fun h => (hv h).snoc fname fun hp => spec_isPrim hp g) (by simpa [specFieldWith] using g) r
    | selected sel =>
      simp only [decodeFieldWith]
      cases hsel : selOf vals sel with
      | crash cls =>
        by_cases hs : noCrash
        · obtain ⟨x, hx⟩ := (hv hs).sel (by simpa using (htot hs).1.2)
          rw [hx] at hsel; cases hsel
        · exact T.crash hs ..
      | sel sv =>
        refine decode_tol t hwf.1 htt _ sv s _ hfr fun v s1 b e g r => ?_
        exact rest_tol v s1 b e (some false) _ (fun h => (htot h).2)
          (fun h => (hv h).snoc_other fname v) (by simpa [specFieldWith, hsel] using g) r
    | counted =>
      simp only [decodeFieldWith]
      cases hc : countOf vals with
      | crash cls =>
        by_cases hs : noCrash
        · obtain ⟨_, hl⟩ : t.okNoSel = true ∧ l = some true := by simpa using (htot hs).1.2
          obtain ⟨c, hc'⟩ := (hl ▸ hv hs).count
          rw [hc'] at hc; cases hc
        · exact T.crash hs ..
      | count c =>
        simp only [R.bind_assoc, R.bind_ok]
        refine repeat_tol (g := fun p v => spec t p none v) (fun p s k hf hk => decode_tol t hwf.1 htt p none s k hf hk) _ c 0 _ _ hfr fun vs s1 b e hl g r => ?_
        exact rest_tol (.list vs) s1 b _ l _ (fun h => (htot h).2)
          (fun h => (hv h).snoc_list fname vs) (by simp only [specFieldWith, hc, Val.asList, hl, if_true, g, Option.map_some]) r.root
end
end

theorem decode_sound : (t : Ty) → t.wf = true → ∀ (path : Path) (sel : Option Int) (s s' : St) (v : Val),
    Fresh s.scs s.pos → decode true t path sel s = .ok (v, s') → Snd (spec t path sel v) s s' :=
  fun t hwf path sel s s' v hfr h =>
    decode_tol (Tol.sound fun v s' => Snd (spec t path sel v) s s') t hwf (fun f => f.elim) path sel s _ hfr
      (fun v s1 b e g r _ _ he => by cases he; exact ⟨b, e, g, r⟩) v s' ((R.bind_pure _).trans h)

theorem arm_sound : (arms : Arms) → arms.wf = true → ∀ (un want : String) (path : Path) (s s' : St) (v : Val),
    Fresh s.scs s.pos → decodeArm true arms un want path s = .ok (v, s') → Snd (specArm arms un want path v) s s' :=
  fun arms hwf un want path s s' v hfr h =>
    arm_tol (Tol.sound fun v s' => Snd (specArm arms un want path v) s s') arms hwf (fun f => f.elim) un want path s _
      (fun f => f.elim) hfr (fun v s1 b e g r _ _ he => by cases he; exact ⟨b, e, g, r⟩) v s' ((R.bind_pure _).trans h)
