import TpmProofs.Prog
/-!
# Properties that every walker inherits from its steps

The walkers of `marshal.py` are built from a handful of steps (`process_primitive`, opening and closing a region, emitting a
structure event) by sequencing, the owners' `except` and three loops.  `StepInv abort X pk` lists what a property `X s r` of a
single run must satisfy for that: the closure conditions and one fact per step — the fact about `process_primitive` only for
the primitive types `pk` accepts.  From it `X` follows for `decode`, `decodeArm`, `decodeFields`, the areas, the session loop of
every layout whose primitive types `pk` accepts (`Ty.pk`) — by ONE mutual induction over the layouts — and for the message
walkers by the induction over the message programs (`StepInv.walkInv`).  A development of such a property consists of its
step lemmas and one instance (`acct_stepInv`, `acctw_stepInv`, `grow_stepInv`, `nw_stepInv`, `pi_stepInv`, `vw_stepInv`).

`pk : Prim → Bool` is there for the properties whose `process_primitive` fact needs something of the primitive type (that its
value set is the one the name table gives for it: `vw_stepInv`, ValueWarn.lean); for all others it is `fun _ => true`.
-/

mutual
def Ty.pk (k : Prim → Bool) : Ty → Bool
  | .prim p => k p
  | .struct _ _ fs => fs.pk k
  | .tpm2bBytes _ _ szP _ elem => k szP && k elem
  | .tpm2b _ _ szP _ body => k szP && body.pk k
  | .union _ arms => arms.pk k
  | .bad _ => true
def Fields.pk (k : Prim → Bool) : Fields → Bool
  | .nil => true
  | .cons _ _ t rest => t.pk k && rest.pk k
def Arms.pk (k : Prim → Bool) : Arms → Bool
  | .nil => true
  | .consNone _ _ rest => rest.pk k
  | .cons _ _ t rest => t.pk k && rest.pk k
  | .consBytes _ _ elem _ rest => k elem && rest.pk k
end


theorem dropSelectors_pk (k : Prim → Bool) : ∀ (fs : Fields), fs.pk k = true → fs.dropSelectors.pk k = true
  | .nil, _ => rfl
  | .cons f kind t rest, h => by
    simp only [Fields.pk, Bool.and_eq_true] at h
    cases kind <;> simp [Fields.dropSelectors, Fields.pk, h.1, dropSelectors_pk k rest h.2]

theorem encVariant_pk {k : Prim → Bool} {encParam t : Ty} {name : String} {fs : Fields} (he : encParam.pk k = true) (ht : t.pk k = true)
    (h : encVariant encParam t = some (name, fs)) : fs.pk k = true := by
  cases t with
  | struct n p fields =>
    cases fields with
    | nil => simp [encVariant] at h
    | cons f kind ft rest =>
      simp only [encVariant] at h
      split at h
      · simp only [Option.some.injEq, Prod.mk.injEq] at h
        obtain ⟨_, rfl⟩ := h
        simp only [Ty.pk, Fields.pk, Bool.and_eq_true] at ht
        simp [Fields.pk, he, dropSelectors_pk k rest ht.2]
      · simp at h
  | _ => simp [encVariant] at h

def MsgTables.pk (tb : MsgTables) (k : Prim → Bool) : Bool :=
  k tb.tagCmd && k tb.cmdSize && k tb.cc && k tb.authSize && tb.authCmd.pk k &&
  k tb.tagRsp && k tb.rspSize && k tb.rc && k tb.paramSize && tb.authRsp.pk k && tb.encParam.pk k &&
  tb.cmdHandles.all (·.2.pk k) && tb.cmdParams.all (·.2.pk k) && tb.rspHandles.all (·.2.pk k) && tb.rspParams.all (·.2.pk k)

theorem lookupTy_pk {k : Prim → Bool} {m : List (Int × Ty)} (h : m.all (·.2.pk k) = true) {key : Int} {t : Ty} (hl : lookupTy m key = some t) :
    t.pk k = true := by
  unfold lookupTy at hl
  simp only [Option.map_eq_some_iff] at hl
  obtain ⟨⟨k', t'⟩, hf, rfl⟩ := hl
  exact List.all_eq_true.mp h _ (List.mem_of_find?_eq_some hf)

theorem MsgTables.pk_field {tb : MsgTables} {k : Prim → Bool} (h : tb.pk k = true) (f : HField) : k (f.prim tb) = true := by
  simp only [MsgTables.pk, Bool.and_eq_true] at h
  cases f <;> simp only [HField.prim, h]

theorem MsgTables.pk_areas {tb : MsgTables} {k : Prim → Bool} (h : tb.pk k = true) :
    tb.authCmd.pk k = true ∧ tb.authRsp.pk k = true ∧ tb.encParam.pk k = true := by
  simp only [MsgTables.pk, Bool.and_eq_true] at h
  exact ⟨h.1.1.1.1.1.1.1.1.1.1.2, h.1.1.1.1.1.2, h.1.1.1.1.2⟩

theorem MsgTables.pk_layout {tb : MsgTables} {k : Prim → Bool} (h : tb.pk k = true) (w : Layouts) {key : Option Int} {t : Ty}
    (hl : key.bind (lookupTy (w.get tb)) = some t) : t.pk k = true := by
  simp only [MsgTables.pk, Bool.and_eq_true] at h
  cases key with
  | none => cases hl
  | some c => cases w <;> exact lookupTy_pk (by simp only [Layouts.get, h]) hl


mutual
theorem Ty.pk_true : (t : Ty) → t.pk (fun _ => true) = true
  | .prim _ | .bad _ => rfl
  | .struct _ _ fs => Fields.pk_true fs
  | .tpm2bBytes .. => rfl
  | .tpm2b _ _ _ _ body => by simp only [Ty.pk, Ty.pk_true body, Bool.and_self]
  | .union _ arms => Arms.pk_true arms
theorem Fields.pk_true : (fs : Fields) → fs.pk (fun _ => true) = true
  | .nil => rfl
  | .cons _ _ t rest => by simp only [Fields.pk, Ty.pk_true t, Fields.pk_true rest, Bool.and_self]
theorem Arms.pk_true : (arms : Arms) → arms.pk (fun _ => true) = true
  | .nil => rfl
  | .consNone _ _ rest => Arms.pk_true rest
  | .cons _ _ t rest => by simp only [Arms.pk, Ty.pk_true t, Arms.pk_true rest, Bool.and_self]
  | .consBytes _ _ _ _ rest => by simp only [Arms.pk, Arms.pk_true rest, Bool.and_self]
end

theorem MsgTables.pk_true (tb : MsgTables) : tb.pk (fun _ => true) = true := by
  simp [MsgTables.pk, Ty.pk_true]

/-- `pk`: the primitive types for which the fact about `process_primitive` is available -/
structure StepInv (abort : Bool) (X : {α : Type} → St → R α → Prop) (pk : Prim → Bool := fun _ => true) : Prop where
  pure : ∀ {α : Type} (a : α) (s : St), X s (.ok (a, s))
  crash : ∀ {α : Type} (cls site : String) (s : St), X s (crash cls site s : R α)
  /-- the two errors for an unknowable layout (no member for the selector, no layouts for the command code) -/
  reject : ∀ {α : Type} (e : Err) (s : St), (∃ p ty x, e = .value p ty x) ∨ (∃ p ty, e = .valueNone p ty) →
    X s (.error (e, s) : R α)
  bind : ∀ {α β : Type} {s : St} {r : R α} {f : α → St → R β},
    X s r → (∀ a s', r = .ok (a, s') → X s' (f a s')) → X s (r.bind f)
  emit : ∀ {α : Type} {s : St} {r : R α} (m : MEvent), m.val = none → X (emitM m s) r → X s r
  scs : ∀ {α : Type} {s : St} {r : R α} (l : List SC), X { s with scs := l } r → X s r
  caught : ∀ {s : St} {r q : R Val} {k : Val → St → R Val},
    X s r → (∀ v s', r = .ok (v, s') → X s' (k v s')) → Caught abort r k q → X s q
  readPrim : ∀ p, pk p = true → ∀ path s, X s (readPrim abort p path s)
  openRegion : ∀ id cpath n s, X s (openRegion abort id cpath n s)
  setListed : ∀ id cpath n s, X s (setListed abort id cpath n s)
  assertDoneSC : ∀ c s, X s (assertDoneSC abort c s)

namespace StepInv
variable {abort : Bool} {X : {α : Type} → St → R α → Prop} {pk : Prim → Bool} (h : StepInv abort X pk)
include h

theorem assertDone (id : Nat) (s : St) : X s (assertDone abort id s) := by
  unfold _root_.assertDone
  split
  · exact h.crash ..
  · exact h.scs _ (h.assertDoneSC ..)

theorem repeatDec (f : Path → St → R Val) (hf : ∀ p s, X s (f p s)) (path : Path) :
    ∀ (n i : Nat) (s : St), X s (repeatDec f path n i s)
  | 0, _, _ => h.pure ..
  | n + 1, i, s => h.bind (hf _ s) fun _ s' _ => h.bind (repeatDec f hf path n (i + 1) s') fun _ _ _ => h.pure ..

theorem listOf (f : Path → St → R Val) (hf : ∀ p s, X s (f p s)) (path : Path) (tn : String) (n : Nat) (s : St) :
    X s ((_root_.repeatDec f path n 0 (emitM ⟨path, .listOf tn, none, "", 0⟩ s)).bind fun vs s => .ok (Val.list vs, s)) :=
  h.emit _ rfl (h.bind (h.repeatDec f hf path n 0 _) fun _ _ _ => h.pure ..)

theorem readPrimList (p : Prim) (hp : pk p = true) (path : Path) (n : Nat) (s : St) : X s (readPrimList abort p path n s) :=
  h.listOf _ (h.readPrim p hp) path p.name n s

theorem readListArm (elem : Prim) (hp : pk elem = true) (n : Option Nat) (path : Path) (s : St) :
    X s (readListArm abort elem n path s) := by
  unfold _root_.readListArm
  cases n with
  | none => exact h.crash ..
  | some k => exact h.readPrimList elem hp ..

theorem fieldWith (d : Path → Option Int → St → R Val) (hd : ∀ p sel s, X s (d p sel s)) (tname : String) :
    ∀ (kind : FKind) (fpath : Path) (vals : List (String × Val)) (s : St), X s (decodeFieldWith d tname kind fpath vals s)
  | .plain, _, _, _ => hd ..
  | .selected sel, _, _, s => by
    simp only [decodeFieldWith]
    split
    · exact h.crash ..
    · exact hd ..
  | .counted, fpath, _, s => by
    simp only [decodeFieldWith]
    split
    · exact h.crash ..
    · exact h.listOf _ (fun p s => hd p none s) fpath tname _ s

mutual
theorem decode : (t : Ty) → t.pk pk = true → ∀ (path : Path) (sel : Option Int) (s : St), X s (decode abort t path sel s)
  | .prim p, ht, path, _, s => by simp only [_root_.decode]; exact h.readPrim p ht ..
  | .struct name _ fs, ht, path, _, s => by
    simp only [_root_.decode]
    exact h.emit _ rfl (h.bind (fields fs ht path [] _) fun _ _ _ => h.pure ..)
  | .tpm2bBytes name szName szP bufName elem, ht, path, _, s => by
    simp only [Ty.pk, Bool.and_eq_true] at ht
    simp only [_root_.decode]
    refine h.emit _ rfl (h.bind (h.readPrim szP ht.1 ..) fun nv s1 _ => ?_)
    split
    · exact h.crash ..
    · exact h.bind (h.openRegion ..) fun _ s2 _ => h.bind (h.readPrimList elem ht.2 ..) fun _ s3 _ =>
        h.bind (h.assertDone ..) fun _ _ _ => h.pure ..
  | .tpm2b name szName szP bufName body, ht, path, _, s => by
    simp only [Ty.pk, Bool.and_eq_true] at ht
    simp only [_root_.decode]
    refine h.emit _ rfl (h.bind (h.readPrim szP ht.1 ..) fun nv s1 _ => ?_)
    split
    · exact h.crash ..
    · refine h.bind (h.openRegion ..) fun _ s2 _ => ?_
      split
      · exact h.emit _ rfl (h.bind (h.assertDone ..) fun _ _ _ => h.pure ..)
      · exact h.caught (decode body ht.2 _ none s2) (fun _ s3 _ => h.bind (h.assertDone ..) fun _ _ _ => h.pure ..)
          (ownCatch_caught ..)
  | .union name arms, ht, path, sel, s => by
    simp only [_root_.decode]
    refine h.emit ⟨path, .named name false, none, "", 0⟩ rfl ?_
    split
    · split
      · exact h.reject _ _ (.inl ⟨_, _, _, rfl⟩)
      · exact h.reject _ _ (.inr ⟨_, _, rfl⟩)
    · exact arm arms ht name _ path _
  | .bad r, _, _, _, s => by simp only [_root_.decode]; exact h.crash ..

theorem arm : (arms : Arms) → arms.pk pk = true → ∀ (un want : String) (path : Path) (s : St),
    X s (decodeArm abort arms un want path s)
  | .nil, _, _, _, _, s => by simp only [decodeArm]; exact h.crash ..
  | .consNone an key rest, ht, un, want, path, s => by
    simp only [decodeArm]
    split
    · exact h.pure ..
    · exact arm rest ht un want path s
  | .cons an key t rest, ht, un, want, path, s => by
    simp only [Arms.pk, Bool.and_eq_true] at ht
    simp only [decodeArm]
    split
    · exact h.bind (decode t ht.1 _ none s) fun _ _ _ => h.pure ..
    · exact arm rest ht.2 un want path s
  | .consBytes an key elem n rest, ht, un, want, path, s => by
    simp only [Arms.pk, Bool.and_eq_true] at ht
    simp only [decodeArm]
    split
    · exact h.bind (h.readListArm elem ht.1 ..) fun _ _ _ => h.pure ..
    · exact arm rest ht.2 un want path s

theorem fields : (fs : Fields) → fs.pk pk = true → ∀ (path : Path) (vals : List (String × Val)) (s : St),
    X s (decodeFields abort fs path vals s)
  | .nil, _, _, _, s => by simp only [decodeFields]; exact h.pure ..
  | .cons fname kind t rest, ht, path, vals, s => by
    simp only [Fields.pk, Bool.and_eq_true] at ht
    simp only [decodeFields]
    exact h.bind (h.fieldWith _ (fun p sel s => decode t ht.1 p sel s) t.name kind _ vals s) fun _ s' _ =>
      fields rest ht.2 path _ s'
end

theorem area (tb : MsgTables) (enc : Bool) (t : Ty) (ht : t.pk pk = true) (he : tb.encParam.pk pk = true) (path : Path) (s : St) :
    X s (decodeArea abort tb enc t path s) := by
  unfold decodeArea
  split
  · cases henc : encVariant tb.encParam t with
    | none => exact h.decode t ht ..
    | some nf => exact h.emit _ rfl (h.bind (h.fields nf.2 (encVariant_pk he ht henc) ..) fun _ _ _ => h.pure ..)
  · exact h.decode t ht ..

theorem sizedLoop (t : Ty) (ht : t.pk pk = true) (path : Path) (cid : Nat) : ∀ (fuel i : Nat) (acc : List Val) (s : St),
    X s (sizedLoop abort t path cid fuel i acc s)
  | 0, _, _, s => h.crash ..
  | fuel + 1, i, acc, s => by
    unfold _root_.sizedLoop
    split
    · exact h.crash ..
    · split
      · exact h.crash ..
      · split
        · exact h.caught (h.decode t ht ..) (fun _ s' _ => sizedLoop t ht path cid fuel _ _ s') (ownCatch_caught ..)
        · exact h.bind (h.scs _ (h.assertDoneSC ..)) fun _ _ _ => h.pure ..

theorem sized (t : Ty) (ht : t.pk pk = true) (path : Path) (cid : Nat) (s : St) : X s (decodeSized abort t path cid s) :=
  h.emit ⟨_, _, none, _, _⟩ rfl (h.sizedLoop t ht ..)

theorem walkInv (tb : MsgTables) (htb : tb.pk pk = true) : WalkInv abort tb X where
  announce _ _ _ := h.emit ⟨_, _, none, _, _⟩ rfl (h.pure ..)
  msg path own name :=
  { pure := h.pure
    crash := h.crash
    bind := h.bind
    caught := h.caught
    leaf := fun l s => by
      obtain ⟨hAuthC, hAuthR, hEnc⟩ := MsgTables.pk_areas htb
      cases l <;> simp only [Leaf.run]
      case start => exact h.scs _ (h.emit ⟨_, _, none, _, _⟩ rfl (h.pure ..))
      case field f => exact h.readPrim _ (MsgTables.pk_field htb f) ..
      case setOwn => exact h.setListed ..
      case openInner => exact h.openRegion ..
      case area w key enc nm =>
        split
        · cases key
          · exact h.reject _ _ (.inr ⟨_, _, rfl⟩)
          · exact h.reject _ _ (.inl ⟨_, _, _, rfl⟩)
        · exact h.area tb enc _ (MsgTables.pk_layout htb w ‹_›) hEnc ..
      case sessions rsp =>
        cases rsp
        · exact h.sized _ hAuthC ..
        · exact h.sized _ hAuthR ..
      case done => exact h.assertDone .. }

theorem command (tb : MsgTables) (htb : tb.pk pk = true) (path : Path) (s : St) : X s (decodeCommand abort tb path s) :=
  (h.walkInv tb htb).command path s

theorem response (tb : MsgTables) (htb : tb.pk pk = true) (cc : Option Int) (enc : Bool) (path : Path) (s : St) :
    X s (decodeResponse abort tb cc enc path s) :=
  (h.walkInv tb htb).response cc enc path s

theorem stream (tb : MsgTables) (htb : tb.pk pk = true) (path : Path) (fuel : Nat) (s : St) :
    X s (decodeStream abort tb path fuel s) :=
  (h.walkInv tb htb).stream path fuel s

theorem runWalker (tb : MsgTables) (htb : tb.pk pk = true) (top : Top) (htop : ∀ t, top = .ty t → t.pk pk = true) (x : List Byte) :
    X (initSt x) (runWalker abort tb top x) :=
  (h.walkInv tb htb).runWalker top x fun t ht => h.decode t (htop t ht) ..

end StepInv
