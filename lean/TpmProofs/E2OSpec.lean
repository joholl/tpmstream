import TpmProofs.E2OTree
import TpmProofs.DecodeOk
/-!
# `events_to_obj` on the events the tables dictate

For every layout meeting the side conditions `Ty.eo` and every conforming value `v`: the events of `spec t path v` build
(by `_events_to_dict`) exactly one new subtree `T` at the node they start at, and `_to_obj` turns `T` back into `v`.
-/

def ftOf (kind : FKind) (t : Ty) : FT :=
  match kind with
  | .counted => .many t
  | _ => .one t

/-- the second key of `TPM2B_ENCRYPTED_PARAM` (the key `is_encrypted_params` recognises an encrypted area by) -/
def encBuf : Ty → String
  | .tpm2bBytes _ _ _ b _ => b
  | _ => ""

/-! side conditions: no layout uses the key that marks an encrypted parameter; the two keys of a size-prefixed structure
differ; a size-prefixed structure's body has fields (so that an empty dict means "absent"); field names are distinct -/
def Arms.top (bad : String) : Arms → Bool
  | .nil => true
  | .consNone _ _ rest => rest.top bad
  | .cons an _ _ rest => decide (an ≠ bad) && rest.top bad
  | .consBytes an _ _ _ rest => decide (an ≠ bad) && rest.top bad

/-- the type's own keys are not the marker key -/
def Ty.top (bad : String) : Ty → Bool
  | .struct _ _ fs => decide (bad ∉ fs.names)
  | .tpm2bBytes _ sz _ buf _ => decide (sz ≠ bad) && decide (buf ≠ bad)
  | .tpm2b _ sz _ buf _ => decide (sz ≠ bad) && decide (buf ≠ bad)
  | .union _ arms => arms.top bad
  | _ => true

mutual
def Ty.eo (bad : String) : Ty → Bool
  | .prim _ => true
  | .struct _ _ fs => fs.eo bad && decide (fs.names.Nodup)
  | .tpm2bBytes _ sz _ buf _ => decide (sz ≠ buf)
  | .tpm2b _ sz _ buf body => decide (sz ≠ buf) && body.hasFields && body.eo bad
  | .union _ arms => arms.eo bad
  | .bad _ => true
def Fields.eo (bad : String) : Fields → Bool
  | .nil => true
  | .cons _ _ t rest => t.top bad && t.eo bad && rest.eo bad
def Arms.eo (bad : String) : Arms → Bool
  | .nil => true
  | .consNone _ _ rest => rest.eo bad
  | .cons _ _ t rest => t.top bad && t.eo bad && rest.eo bad
  | .consBytes _ _ _ _ rest => rest.eo bad
end

def TopAvoid (bad : String) (T : Tree) : Prop := ∀ sub, T = .dict sub → bad ∉ sub.map (·.1)

theorem topAvoid_leaf (bad cls : String) (x : Int) : TopAvoid bad (.leaf cls x) := by
  intro sub h; cases h

theorem topAvoid_list (bad : String) (es : List (Option Tree)) : TopAvoid bad (.list es) := by
  intro sub h; cases h

theorem topAvoid_dict {bad : String} {kvs : List (String × Tree)} (h : bad ∉ kvs.map (·.1)) : TopAvoid bad (.dict kvs) := by
  intro sub hsub; cases hsub; exact h

theorem topAvoid_pair {bad sz buf : String} {Ts Tb : Tree} (h : sz ≠ bad ∧ buf ≠ bad) :
    TopAvoid bad (.dict [(sz, Ts), (buf, Tb)]) :=
  topAvoid_dict (by simpa [eq_comm] using h)

theorem isEncDict_nil (enc : Ty) : isEncDict enc [] = false := by
  unfold isEncDict; rfl

theorem isEncDict_false (enc : Ty) (k : String) (T : Tree) (rest : List (String × Tree))
    (h : TopAvoid (encBuf enc) T) : isEncDict enc ((k, T) :: rest) = false := by
  cases T with
  | dict sub =>
    cases enc with
    | tpm2bBytes n sz p buf e =>
      simp only [isEncDict, beq_eq_false_iff_ne, ne_eq]
      intro heq
      have := h sub rfl
      rw [heq] at this
      simp [encBuf] at this
    | _ => rfl
  | _ => rfl

variable (enc : Ty)

theorem toObj_leaf (ft : FT) (cls : String) (x : Int) : toObj enc ft (.leaf cls x) = some (.int cls x) := by
  cases ft <;> simp [toObj]

/-- `_dict_to_obj` on a non-empty dict that is not an encrypted area -/
theorem toObj_dict (t : Ty) (kvs : List (String × Tree)) (fvs : List (String × Val)) (hne : kvs ≠ [])
    (henc : isEncDict enc kvs = false) (h : toObjKvs enc t kvs = some fvs) :
    toObj enc (.one t) (.dict kvs) = some (.obj t.name false fvs) := by
  have he : kvs.isEmpty = false := by cases kvs <;> simp_all
  simp [toObj, he, henc, h]

theorem toObj_empty_absent (t : Ty) (h : t.hasFields = true) : toObj enc (.one t) (.dict []) = some .none := by
  simp [toObj, h]

/-! ## leaves, structured nodes and lists -/

theorem drop_pre_snoc (pre : Path) (nd : PathNode) : (pre ++ [nd]).drop pre.length = [nd] := by simp

theorem drop_pre_snoc2 (pre : Path) (nd x : PathNode) : ((pre ++ [nd]) ++ [x]).drop pre.length = [nd, x] := by simp

/-- a primitive field: the leaf is explicit -/
theorem prim_leaf {p : Prim} {pre : Path} {nd : PathNode} {v : Val} {bs : List Byte} {evs : List SEv}
    (h : specPrim p (pre ++ [nd]) v = some (bs, evs)) :
    ∃ x, v = .int p.name x ∧ BuildsAt nd (.leaf p.name x) (sstrip pre.length evs) := by
  obtain ⟨x, rfl, _, _, _, rfl⟩ := specPrim_inv h
  exact ⟨x, rfl, buildsAt_leaf nd _ (by simp [stripE])⟩

theorem prim_builds {p : Prim} {pre : Path} {nd : PathNode} {v : Val} {bs : List Byte} {evs : List SEv}
    (h : specPrim p (pre ++ [nd]) v = some (bs, evs)) :
    ∃ T, BuildsAt nd T (sstrip pre.length evs) ∧ toObj enc (.one (.prim p)) T = some v ∧ TopAvoid (encBuf enc) T := by
  obtain ⟨x, rfl, hB⟩ := prim_leaf h
  exact ⟨_, hB, toObj_leaf enc _ _ _, topAvoid_leaf _ _ _⟩

/-- the marker event of an absent part creates the empty dict -/
theorem absent_builds (pre : Path) (nd : PathNode) (body : Ty) (k : Nat) :
    BuildsAt nd (.dict []) (sstrip pre.length [(k, ⟨pre ++ [nd], body.eventTag, none, "", 0⟩)]) := by
  have := buildsAt_leaf nd (stripE pre.length ⟨pre ++ [nd], body.eventTag, none, "", 0⟩) (by simp [stripE])
  have hl : leafOf ⟨pre ++ [nd], body.eventTag, none, "", 0⟩ = .dict [] := by cases body <;> rfl
  rwa [leafOf_stripE, hl] at this

/-- the event of a structured value creates the empty dict at its node; the events below the node fill it -/
theorem node_builds {pre : Path} {nd : PathNode} {n : String} {e : Bool} {k : Nat} {rest : List SEv} {T : Tree}
    (hu : Under (pre ++ [nd]) rest) (hb : buildTree (sstrip (pre ++ [nd]).length rest) (.dict []) = some T) :
    BuildsAt nd T (sstrip pre.length ((k, ⟨pre ++ [nd], .named n e, none, "", 0⟩) :: rest)) := by
  rw [sstrip_cons]
  apply buildsAt_node nd _ _ _ (by simp [stripE]) (under_heads hu)
  rw [strip_sstrip]
  rw [List.length_append] at hb
  exact hb

/-- the elements of a list, one after the other, extend the list at that key -/
theorem repeat_builds (f : Path → Val → Option (List Byte × List SEv)) (t : Ty) (pre : Path) (name : String)
    (hf : ∀ i v bs evs, f (pre ++ [⟨name, some i⟩]) v = some (bs, evs) →
      ∃ T, BuildsAt ⟨name, some i⟩ T (sstrip pre.length evs) ∧ toObj enc (.one t) T = some v) :
    ∀ (vs : List Val) (i : Nat) (bs : List Byte) (evs : List SEv),
      specRepeat f (pre ++ [⟨name, none⟩]) vs i = some (bs, evs) →
      ∃ Ts, toObjElems enc t Ts = some vs ∧
        ∀ kvs es, kvLookup kvs name = some (.list es) → es.length = i →
          buildTree (sstrip pre.length evs) (.dict kvs) = some (.dict (kvSet kvs name (.list (es ++ Ts))))
  | [], i, bs, evs, h => by
    simp only [specRepeat, Option.some.injEq, Prod.mk.injEq] at h
    obtain ⟨_, rfl⟩ := h
    refine ⟨[], by simp [toObjElems], ?_⟩
    intro kvs es hl _
    simp only [sstrip_nil, buildTree, List.append_nil, kvSet_same kvs name _ hl]
  | v :: vs, i, bs, evs, h => by
    obtain ⟨b, e, bs', es', hfe, hrest, _, rfl⟩ := specRepeat_cons_inv h
    rw [elemPath_snoc] at hfe
    obtain ⟨T, hT, hTo⟩ := hf i v b e hfe
    obtain ⟨Ts, hTs, hbuild⟩ := repeat_builds f t pre name hf vs (i+1) bs' es' hrest
    refine ⟨some T :: Ts, by simp [toObjElems, hTo, hTs], ?_⟩
    intro kvs es hl hlen
    rw [sstrip_append, sstrip_shift, buildTree_append, hT.2 i rfl kvs es hl hlen, Option.bind_some,
      hbuild _ (es ++ [some T]) (kvLookup_kvSet_self kvs name _) (by simp [hlen]), kvSet_kvSet]
    simp

/-- a list's own event creates the empty list at its key, which the elements extend -/
theorem list_builds (f : Path → Val → Option (List Byte × List SEv)) (t : Ty) (pre : Path) (name tn : String)
    (hf : ∀ i v bs evs, f (pre ++ [⟨name, some i⟩]) v = some (bs, evs) →
      ∃ T, BuildsAt ⟨name, some i⟩ T (sstrip pre.length evs) ∧ toObj enc (.one t) T = some v)
    {vs : List Val} {bs : List Byte} {evs : List SEv} (h : specRepeat f (pre ++ [⟨name, none⟩]) vs 0 = some (bs, evs)) :
    ∃ T, BuildsAt ⟨name, none⟩ T (sstrip pre.length ((0, ⟨pre ++ [⟨name, none⟩], .listOf tn, none, "", 0⟩) :: evs)) ∧
      toObj enc (.many t) T = some (.list vs) ∧ TopAvoid (encBuf enc) T := by
  obtain ⟨Ts, hTs, hbuild⟩ := repeat_builds enc f t pre name hf vs 0 bs evs h
  refine ⟨.list Ts, ⟨?_, ?_⟩, by simp [toObj, hTs], topAvoid_list _ _⟩
  · intro _ kvs hfresh
    simp only [sstrip_cons, buildTree, stripE, drop_pre_snoc]
    rw [ins_new_key kvs ⟨name, none⟩ _ rfl hfresh, Option.bind_some]
    have := hbuild (kvs ++ [(name, .list [])]) [] (kvLookup_append_self kvs name _ hfresh) rfl
    simp only [List.nil_append] at this
    show buildTree _ (Tree.dict (kvs ++ [(name, Tree.list [])])) = _
    rw [this, kvSet_append_fresh kvs name _ _ hfresh]
  · intro i hi; cases hi

theorem primList_builds {p : Prim} {pre : Path} {name : String} {n : Nat} {v : Val} {bs : List Byte} {evs : List SEv}
    (h : specPrimList p (pre ++ [⟨name, none⟩]) n v = some (bs, evs)) :
    ∃ T, BuildsAt ⟨name, none⟩ T (sstrip pre.length evs) ∧ toObj enc (.many (.prim p)) T = some v ∧
      TopAvoid (encBuf enc) T := by
  obtain ⟨vs, e, rfl, _, hr, rfl⟩ := specPrimList_inv h
  exact list_builds enc (specPrim p) (.prim p) pre name p.name
    (fun i v bs evs h => (prim_builds enc h).imp fun T hT => ⟨hT.1, hT.2.1⟩) hr

/-! ## one declared field -/

theorem fieldWith_builds (t : Ty) (pre : Path) (fname : String) (g : Path → Option Int → Val → Option (List Byte × List SEv))
    (hg : ∀ nd sel v bs evs, g (pre ++ [nd]) sel v = some (bs, evs) →
      ∃ T, BuildsAt nd T (sstrip pre.length evs) ∧ toObj enc (.one t) T = some v ∧ TopAvoid (encBuf enc) T)
    (tname : String) (kind : FKind) (vals : List (String × Val)) (v : Val) (bs : List Byte) (evs : List SEv)
    (h : specFieldWith g tname kind (pre ++ [⟨fname, none⟩]) vals v = some (bs, evs)) :
    ∃ T, BuildsAt ⟨fname, none⟩ T (sstrip pre.length evs) ∧ toObj enc (ftOf kind t) T = some v ∧
      TopAvoid (encBuf enc) T := by
  rcases specFieldWith_inv h with ⟨hk, sel, hs⟩ | ⟨rfl, es, e, rfl, _, hr, rfl⟩
  · have : ftOf kind t = .one t := by cases kind <;> simp_all [ftOf]
    rw [this]
    exact hg _ _ _ _ _ hs
  · exact list_builds enc (fun p v => g p none v) t pre fname tname
      (fun i v bs evs h => (hg _ _ _ _ _ h).imp fun T hT => ⟨hT.1, hT.2.1⟩) hr

/-! ## declared types of dict entries -/

/-- `look` finds every field of `fs` with its declared kind and type -/
def AttrOk (look : String → Option FT) : Fields → Prop
  | .nil => True
  | .cons f kind t rest => look f = some (ftOf kind t) ∧ AttrOk look rest

theorem attrOk_congr (look look' : String → Option FT) : (fs : Fields) → (∀ n ∈ fs.names, look' n = look n) →
    AttrOk look fs → AttrOk look' fs
  | .nil, _, _ => trivial
  | .cons f kind t rest, hsame, h => by
    refine ⟨?_, attrOk_congr look look' rest (fun n hn => hsame n (by simp [Fields.names, hn])) h.2⟩
    rw [hsame f (by simp [Fields.names])]; exact h.1

theorem attrOk_self : (fs : Fields) → fs.names.Nodup → AttrOk fs.attr fs
  | .nil, _ => trivial
  | .cons f kind t rest, hnd => by
    simp only [Fields.names, List.nodup_cons] at hnd
    refine ⟨?_, ?_⟩
    · cases kind <;> simp [Fields.attr, ftOf]
    · apply attrOk_congr rest.attr _ rest _ (attrOk_self rest hnd.2)
      intro n hn
      have : f ≠ n := by rintro rfl; exact hnd.1 hn
      simp [Fields.attr, this]

/-! ## size-prefixed structures -/

/-- two entries of a size-prefixed structure, one after the other into the empty dict -/
theorem pair_builds {sz buf : String} {Ts Tb : Tree} {A B : List MEvent} (hA : BuildsAt ⟨sz, none⟩ Ts A)
    (hB : BuildsAt ⟨buf, none⟩ Tb B) (hne : sz ≠ buf) :
    buildTree (A ++ B) (.dict []) = some (.dict [(sz, Ts), (buf, Tb)]) := by
  have := (BuildsEntries.cons hA (by simpa using hne) (BuildsEntries.cons hB (List.not_mem_nil) .nil)).empty
  simpa using this

theorem pair_toObj (t : Ty) {sz buf : String} {Ts Tb : Tree} {nv bv : Val} {ft1 ft2 : FT} (h1 : t.attr sz = some ft1)
    (h2 : t.attr buf = some ft2) (hs : toObj enc ft1 Ts = some nv) (hb : toObj enc ft2 Tb = some bv)
    (ha : TopAvoid (encBuf enc) Ts) :
    toObj enc (.one t) (.dict [(sz, Ts), (buf, Tb)]) = some (.obj t.name false [(sz, nv), (buf, bv)]) := by
  apply toObj_dict enc t _ _ (by simp) (isEncDict_false enc sz Ts _ ha)
  simp [toObjKvs, h1, h2, hs, hb]

/-- the structure's own event, then the size field and the buffer field -/
theorem sized_builds (t : Ty) {sz buf : String} {ft1 ft2 : FT} (hne : sz ≠ buf) (h1 : t.attr sz = some ft1)
    (h2 : t.attr buf = some ft2) {pre : Path} {nd : PathNode} {A B : List SEv} {Ts Tb : Tree} {nv bv : Val}
    (hu : Under (pre ++ [nd]) ((0, ⟨pre ++ [nd], .named t.name false, none, "", 0⟩) :: (A ++ B)))
    (hA : BuildsAt ⟨sz, none⟩ Ts (sstrip (pre ++ [nd]).length A)) (hs : toObj enc ft1 Ts = some nv)
    (ha : TopAvoid (encBuf enc) Ts) (hB : BuildsAt ⟨buf, none⟩ Tb (sstrip (pre ++ [nd]).length B))
    (hb : toObj enc ft2 Tb = some bv) :
    BuildsAt nd (.dict [(sz, Ts), (buf, Tb)])
        (sstrip pre.length ((0, ⟨pre ++ [nd], .named t.name false, none, "", 0⟩) :: (A ++ B))) ∧
      toObj enc (.one t) (.dict [(sz, Ts), (buf, Tb)]) = some (.obj t.name false [(sz, nv), (buf, bv)]) := by
  refine ⟨node_builds hu.tail ?_, pair_toObj enc t h1 h2 hs hb ha⟩
  rw [sstrip_append]
  exact pair_builds hA hB hne

/-- a size-prefixed byte buffer: the shape of the subtree is explicit -/
theorem tpm2bBytes_builds {name szName bufName : String} {szP elem : Prim} (hne : szName ≠ bufName) {pre : Path}
    {nd : PathNode} {sel : Option Int} {v : Val} {bs : List Byte} {evs : List SEv}
    (h : spec (.tpm2bBytes name szName szP bufName elem) (pre ++ [nd]) sel v = some (bs, evs)) :
    ∃ Ts Tb, BuildsAt nd (.dict [(szName, Ts), (bufName, Tb)]) (sstrip pre.length evs) ∧
      toObj enc (.one (.tpm2bBytes name szName szP bufName elem)) (.dict [(szName, Ts), (bufName, Tb)]) = some v := by
  have hunder := spec_under _ _ _ _ _ _ h
  obtain ⟨nv, bv, nb, ne, n, bb, be, rfl, hsz, _, hl, _, _, rfl⟩ := spec_tpm2bBytes_inv h
  obtain ⟨Ts, hTs, hTso, hTsa⟩ := prim_builds enc hsz
  obtain ⟨Tb, hTb, hTbo, _⟩ := primList_builds enc hl
  exact ⟨Ts, Tb, sized_builds enc (.tpm2bBytes name szName szP bufName elem) hne (by simp [Ty.attr])
    (by simp [Ty.attr, hne]) hunder hTs hTso hTsa (by rwa [sstrip_shift]) hTbo⟩

/-! ## the three mutually recursive statements -/

mutual
theorem spec_builds : (t : Ty) → t.eo (encBuf enc) = true → ∀ (pre : Path) (nd : PathNode) (sel : Option Int) (v : Val)
    (bs : List Byte) (evs : List SEv), spec t (pre ++ [nd]) sel v = some (bs, evs) →
    ∃ T, BuildsAt nd T (sstrip pre.length evs) ∧ toObj enc (.one t) T = some v ∧
      (t.top (encBuf enc) = true → TopAvoid (encBuf enc) T)
  | .prim p, _, pre, nd, sel, v, bs, evs, h => by
    simp only [spec] at h
    obtain ⟨T, h1, h2, h3⟩ := prim_builds enc h
    exact ⟨T, h1, h2, fun _ => h3⟩
  | .struct name isP fs, heo, pre, nd, sel, v, bs, evs, h => by
    simp only [Ty.eo, Bool.and_eq_true, decide_eq_true_eq] at heo
    obtain ⟨fvs, e, rfl, hr, rfl⟩ := spec_struct_inv h
    obtain ⟨entries, hnames, havoid, hbuild, hobj⟩ := fields_builds fs heo.1 heo.2 (pre ++ [nd]) [] fvs bs e hr
    refine ⟨.dict entries, node_builds (specFields_under fs _ _ _ _ _ hr) (BuildsEntries.empty hbuild), ?_,
      fun htop => topAvoid_dict (by rw [hnames]; simpa [Ty.top] using htop)⟩
    cases entries with
    | nil =>
      cases fs with
      | nil =>
        have := hobj (.struct name isP .nil) trivial
        simp only [toObjKvs, Option.some.injEq] at this
        simp [toObj, Ty.hasFields, isEncDict_nil, toObjKvs, Ty.name, ← this]
      | cons f k t rest => simp [Fields.names] at hnames
    | cons hd tl =>
      obtain ⟨k1, T1⟩ := hd
      exact toObj_dict enc (.struct name isP fs) _ fvs (by simp)
        (isEncDict_false enc k1 T1 tl (havoid _ (List.mem_cons_self ..)))
        (hobj _ (attrOk_congr fs.attr _ fs (fun n _ => by simp [Ty.attr]) (attrOk_self fs heo.2)))
  | .tpm2bBytes name szName szP bufName elem, heo, pre, nd, sel, v, bs, evs, h => by
    simp only [Ty.eo, decide_eq_true_eq] at heo
    obtain ⟨Ts, Tb, hB, hTo⟩ := tpm2bBytes_builds enc heo h
    exact ⟨_, hB, hTo, fun htop => topAvoid_pair (by simpa [Ty.top] using htop)⟩
  | .tpm2b name szName szP bufName body, heo, pre, nd, sel, v, bs, evs, h => by
    simp only [Ty.eo, Bool.and_eq_true, decide_eq_true_eq] at heo
    have hunder := spec_under _ _ _ _ _ _ h
    obtain ⟨nv, bv, nb, ne, n, rfl, hsz, _, _, hcase⟩ := spec_tpm2b_inv h
    obtain ⟨Ts, hTs, hTso, hTsa⟩ := prim_builds enc hsz
    -- the events of the body, absent or not
    have hbody : ∃ B Tb, evs = (0, ⟨pre ++ [nd], .named name false, none, "", 0⟩) :: (ne ++ B) ∧
        BuildsAt ⟨bufName, none⟩ Tb (sstrip (pre ++ [nd]).length B) ∧ toObj enc (.one body) Tb = some bv := by
      rcases hcase with ⟨_, rfl, _, rfl⟩ | ⟨_, bb, be, hb, _, _, _, rfl⟩
      · exact ⟨_, _, rfl, absent_builds _ _ body _, toObj_empty_absent enc body heo.1.2⟩
      · obtain ⟨Tb, hTb, hTbo, _⟩ := spec_builds body heo.2 (pre ++ [nd]) ⟨bufName, none⟩ none bv bb be hb
        exact ⟨_, Tb, rfl, by rwa [sstrip_shift], hTbo⟩
    obtain ⟨B, Tb, rfl, hTb, hTbo⟩ := hbody
    obtain ⟨h1, h2⟩ := sized_builds enc (.tpm2b name szName szP bufName body) heo.1.1 (by simp [Ty.attr])
      (by simp [Ty.attr, heo.1.1]) hunder hTs hTso hTsa hTb hTbo
    exact ⟨_, h1, h2, fun htop => topAvoid_pair (by simpa [Ty.top] using htop)⟩
  | .union name arms, heo, pre, nd, sel, v, bs, evs, h => by
    simp only [Ty.eo] at heo
    obtain ⟨an, e, _, hr, rfl⟩ := spec_union_inv h
    rcases arm_builds arms heo name an (pre ++ [nd]) v bs e hr with
      ⟨rfl, rfl⟩ | ⟨T, ft, av, hT, hattr, hTo, rfl, hTa, hwant⟩
    · refine ⟨.dict [], buildsAt_leaf nd _ (by simp [stripE]), toObj_empty_absent enc _ ?_,
        fun _ => topAvoid_dict (by simp)⟩
      cases arms with
      | nil => simp [specArm] at hr
      | _ => rfl
    · refine ⟨.dict [(an, T)], node_builds (specArm_under arms _ _ _ _ _ _ hr) ?_, ?_, fun htop => topAvoid_dict ?_⟩
      · simpa using hT.1 rfl [] (kvLookup_nil _)
      · apply toObj_dict enc (.union name arms) _ _ (by simp) (isEncDict_false enc an T _ hTa)
        simp [toObjKvs, Ty.attr, hattr, hTo]
      · simpa [eq_comm] using hwant (by simpa [Ty.top] using htop)
  | .bad _, _, pre, nd, sel, v, bs, evs, h => by simp [spec] at h

theorem arm_builds : (arms : Arms) → arms.eo (encBuf enc) = true → ∀ (un want : String) (path : Path) (v : Val)
    (bs : List Byte) (evs : List SEv), specArm arms un want path v = some (bs, evs) →
    (evs = [] ∧ v = .none) ∨
    ∃ T ft av, BuildsAt ⟨want, none⟩ T (sstrip path.length evs) ∧ arms.attr want = some ft ∧ toObj enc ft T = some av ∧
      v = .obj un false [(want, av)] ∧ TopAvoid (encBuf enc) T ∧ (arms.top (encBuf enc) = true → want ≠ encBuf enc)
  | .nil, _, un, want, path, v, bs, evs, h => by simp [specArm] at h
  | .consNone an k rest, heo, un, want, path, v, bs, evs, h => by
    simp only [Arms.eo] at heo
    rcases specArm_consNone_inv h with ⟨_, hz, _, rfl⟩ | ⟨hne, h⟩
    · exact Or.inl ⟨rfl, hz⟩
    · exact (arm_builds rest heo un want path v bs evs h).imp_right fun ⟨T, ft, av, h1, h2, h3, h4, h5, h6⟩ =>
        ⟨T, ft, av, h1, by simp [Arms.attr, hne, h2], h3, h4, h5, fun ht => h6 (by simpa [Arms.top] using ht)⟩
  | .cons an k t rest, heo, un, want, path, v, bs, evs, h => by
    simp only [Arms.eo, Bool.and_eq_true] at heo
    rcases specArm_cons_inv h with ⟨rfl, av, hav, h⟩ | ⟨hne, h⟩
    · obtain ⟨T, hT, hTo, hTa⟩ := spec_builds t heo.1.2 path ⟨an, none⟩ none av bs evs h
      exact Or.inr ⟨T, .one t, av, hT, by simp [Arms.attr], hTo, hav, hTa heo.1.1,
        fun ht => by simp only [Arms.top, Bool.and_eq_true, decide_eq_true_eq] at ht; exact ht.1⟩
    · exact (arm_builds rest heo.2 un want path v bs evs h).imp_right fun ⟨T, ft, av, h1, h2, h3, h4, h5, h6⟩ =>
        ⟨T, ft, av, h1, by simp [Arms.attr, hne, h2], h3, h4, h5,
          fun ht => h6 (by simp only [Arms.top, Bool.and_eq_true] at ht; exact ht.2)⟩
  | .consBytes an k elem n rest, heo, un, want, path, v, bs, evs, h => by
    simp only [Arms.eo] at heo
    rcases specArm_consBytes_inv h with ⟨rfl, av, c, hav, _, h⟩ | ⟨hne, h⟩
    · obtain ⟨T, hT, hTo, hTa⟩ := primList_builds enc h
      exact Or.inr ⟨T, .many (.prim elem), av, hT, by simp [Arms.attr], hTo, hav, hTa,
        fun ht => by simp only [Arms.top, Bool.and_eq_true, decide_eq_true_eq] at ht; exact ht.1⟩
    · exact (arm_builds rest heo un want path v bs evs h).imp_right fun ⟨T, ft, av, h1, h2, h3, h4, h5, h6⟩ =>
        ⟨T, ft, av, h1, by simp [Arms.attr, hne, h2], h3, h4, h5,
          fun ht => h6 (by simp only [Arms.top, Bool.and_eq_true] at ht; exact ht.2)⟩

theorem fields_builds : (fs : Fields) → fs.eo (encBuf enc) = true → fs.names.Nodup → ∀ (path : Path)
    (vals fvs : List (String × Val)) (bs : List Byte) (evs : List SEv), specFields fs path vals fvs = some (bs, evs) →
    ∃ entries : List (String × Tree), entries.map (·.1) = fs.names ∧ (∀ e ∈ entries, TopAvoid (encBuf enc) e.2) ∧
      (∀ kvs0, (∀ n ∈ fs.names, kvLookup kvs0 n = none) →
        buildTree (sstrip path.length evs) (.dict kvs0) = some (.dict (kvs0 ++ entries))) ∧
      (∀ tt : Ty, AttrOk tt.attr fs → toObjKvs enc tt entries = some fvs)
  | .nil, _, _, path, vals, fvs, bs, evs, h => by
    obtain ⟨rfl, _, rfl⟩ := specFields_nil_inv h
    exact ⟨[], rfl, by simp, BuildsEntries.nil, fun _ _ => by simp [toObjKvs]⟩
  | .cons fname kind t rest, heo, hnd, path, vals, fvs, bs, evs, h => by
    simp only [Fields.eo, Bool.and_eq_true] at heo
    simp only [Fields.names, List.nodup_cons] at hnd
    obtain ⟨v, fvs', b, e, bs', es', rfl, hf, hr, _, rfl⟩ := specFields_cons_inv h
    obtain ⟨T1, hT1, hT1o, hT1a⟩ := fieldWith_builds enc t path fname (fun p sel v => spec t p sel v)
      (fun nd sel v bs evs h => by
        obtain ⟨T, h1, h2, h3⟩ := spec_builds t heo.1.2 path nd sel v bs evs h
        exact ⟨T, h1, h2, h3 heo.1.1⟩) t.name kind vals v b e hf
    obtain ⟨entries', hnames', havoid', hbuild', hobj'⟩ := fields_builds rest heo.2 hnd.2 path _ fvs' bs' es' hr
    refine ⟨(fname, T1) :: entries', by simp [Fields.names, hnames'], List.forall_mem_cons.mpr ⟨hT1a, havoid'⟩, ?_, ?_⟩
    · rw [sstrip_append, sstrip_shift]
      exact BuildsEntries.cons hT1 hnd.1 hbuild'
    · intro tt hattr
      simp [toObjKvs, hattr.1, hT1o, hobj' tt hattr.2]
end
