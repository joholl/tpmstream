import TpmProofs.SpecPaths
/-!
# The events of `spec t path …` all lie under `path`

`Under path evs`: `path` is a prefix of every event's path.  Elements of a list at `path ++ [⟨name, none⟩]` carry their
index in the last node, so the events of a list lie under `path` only.
-/

def Under (path : Path) (evs : List SEv) : Prop := ∀ e ∈ evs, path <+: e.2.path

theorem Under.nil (p : Path) : Under p [] := Within.nil (p <+: ·)

theorem Under.cons {p : Path} {e : SEv} {evs : List SEv} (h1 : p <+: e.2.path) (h2 : Under p evs) :
    Under p (e :: evs) :=
  Within.cons (P := (p <+: ·)) h1 h2

theorem Under.append {p : Path} {a b : List SEv} (h1 : Under p a) (h2 : Under p b) : Under p (a ++ b) :=
  Within.append (P := (p <+: ·)) h1 h2

theorem Under.shift {p : Path} {a : List SEv} (k : Nat) (h : Under p a) : Under p (shift k a) :=
  Within.shift (P := (p <+: ·)) k h

theorem Under.mono {p q : Path} {a : List SEv} (hpq : q <+: p) (h : Under p a) : Under q a :=
  fun e he => List.IsPrefix.trans hpq (h e he)

theorem Under.tail {p : Path} {e : SEv} {evs : List SEv} (h : Under p (e :: evs)) : Under p evs :=
  fun x hx => h x (List.mem_cons_of_mem _ hx)

theorem prefix_snoc (p : Path) (x : PathNode) : p <+: p ++ [x] := List.prefix_append p [x]

theorem prefix_of_snoc (p : Path) (x : PathNode) (q : Path) (h : p ++ [x] <+: q) : p <+: q :=
  List.IsPrefix.trans (prefix_snoc p x) h

theorem specPrim_under {p : Prim} {path : Path} {v : Val} {bs : List Byte} {evs : List SEv}
    (h : specPrim p path v = some (bs, evs)) : Under path evs :=
  specPrim_within (R := (· <+: ·)) List.prefix_refl h

theorem list_under {f : Path → Val → Option (List Byte × List SEv)} (hf : ∀ p v bs evs, f p v = some (bs, evs) → Under p evs)
    {path : Path} {name tn : String} {vs : List Val} {bs : List Byte} {evs : List SEv}
    (h : specRepeat f (path ++ [⟨name, none⟩]) vs 0 = some (bs, evs)) :
    Under path ((0, ⟨path ++ [⟨name, none⟩], .listOf tn, none, "", 0⟩) :: evs) :=
  list_within (R := (· <+: ·)) List.prefix_refl prefix_of_snoc hf h

theorem spec_under : (t : Ty) → ∀ (path : Path) (sel : Option Int) (v : Val) (bs : List Byte) (evs : List SEv),
    spec t path sel v = some (bs, evs) → Under path evs :=
  spec_within (R := (· <+: ·)) List.prefix_refl prefix_of_snoc

theorem specArm_under : (arms : Arms) → ∀ (un want : String) (path : Path) (v : Val) (bs : List Byte) (evs : List SEv),
    specArm arms un want path v = some (bs, evs) → Under path evs :=
  specArm_within (R := (· <+: ·)) List.prefix_refl prefix_of_snoc

theorem specFields_under : (fs : Fields) → ∀ (path : Path) (vals fvs : List (String × Val)) (bs : List Byte) (evs : List SEv),
    specFields fs path vals fvs = some (bs, evs) → Under path evs :=
  specFields_within (R := (· <+: ·)) List.prefix_refl prefix_of_snoc
