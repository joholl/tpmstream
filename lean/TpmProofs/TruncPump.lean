import TpmProofs.Trunc
import TpmProofs.PumpFacts
/-!
# Truncated inputs through the byte pump (C05, C10)

For every layout, every top (type / command / response), every input `x` and every `k`: what
`Binary.marshal` shows on the prefix `x.take k`, in terms of the strict walker's run on `x`.
-/

theorem initSt_take (x : List Byte) (k : Nat) : initSt (x.take k) = cutSt k (initSt x) := rfl

/-- the walker relation at top level (everything but the stream loop, which looks at the end of the input) -/
theorem runWalker_tr (tb : MsgTables) (top : Top) (hs : top.isStream = false) (x : List Byte) (k : Nat) :
    TRB k (initSt x) (runWalker true tb top x) (runWalker true tb top (x.take k)) := by
  cases top with
  | ty t => simp only [runWalker, initSt_take]; exact decode_tr t rootPath none _ k
  | command => simp only [runWalker, initSt_take]; exact decodeCommand_tr tb rootPath _ k
  | response cc enc => simp only [runWalker, initSt_take]; exact decodeResponse_tr tb cc enc rootPath _ k
  | stream => simp [Top.isStream] at hs

theorem traceOf_take (tb : MsgTables) (top : Top) (hs : top.isStream = false) (x : List Byte) (k : Nat) :
    traceOf tb top (x.take k) = (traceOf tb top x).filter fun ke => ke.1 ≤ k := by
  obtain ⟨new, ho, hp, hst, hle, hlt⟩ := runWalker_tr tb top hs x k
  have := TRB.out_filter ho hst hle hlt
  simp only [initSt, List.nil_append, Nat.zero_add] at ho this
  rw [traceOf, traceOf, this, ho]

theorem evs_trace (tb : MsgTables) (top : Top) (hs : top.isStream = false) (x : List Byte) :
    (marshalRun true tb top x).evs = (traceOf tb top x).map (·.2) := by
  rw [marshalRun_nonstream true tb top hs]
  simp [Run.evs, traceOf]

/-- the walker on the first `k` bytes, when the run on `x` consumes more than `k` -/
theorem truncated_walker (tb : MsgTables) (top : Top) (hs : top.isStream = false) (x : List Byte) (k : Nat)
    (hk : k < consumed tb top x) :
    ∃ t, runWalker true tb top (x.take k) = .error (.depleted, t) ∧ t.inp = [] ∧ t.pos = k ∧
      t.out = (traceOf tb top x).filter fun ke => ke.1 ≤ k := by
  obtain ⟨new, ho, hp, hst, hle, hlt⟩ := runWalker_tr tb top hs x k
  obtain ⟨t, h0, h1, h2, h3⟩ := hlt (by simpa [used, initSt, consumed] using hk)
  refine ⟨t, h0, h1, by simpa [initSt] using h2, ?_⟩
  rw [← traceOf_take tb top hs, traceOf, h0]; rfl

/-- **truncation inside what the decoder consumes**: if the strict decoder consumes more than `k` bytes of `x`,
then on the first `k` bytes it ends with `InputStreamBytesDepletedError`, having shown exactly the events the run on
`x` emits up to byte count `k` (the fields that are complete), in the same order -/
theorem truncated_run (tb : MsgTables) (top : Top) (hs : top.isStream = false) (x : List Byte) (k : Nat)
    (hk : k < consumed tb top x) :
    marshalRun true tb top (x.take k) =
      ⟨shown (x.take k).length ((traceOf tb top x).filter fun ke => ke.1 ≤ k), .depleted,
       ccAfter ((traceOf tb top x).filter fun ke => ke.1 ≤ k) none⟩ := by
  obtain ⟨t, h0, -, -, h3⟩ := truncated_walker tb top hs x k hk
  rw [marshalRun_nonstream true tb top hs, h0, ← h3]
  rfl

/-- **truncation beyond what the decoder consumes** changes nothing but the reported surplus -/
theorem truncated_beyond (tb : MsgTables) (top : Top) (hs : top.isStream = false) (x : List Byte) (k : Nat)
    (hk : consumed tb top x ≤ k) :
    runWalker true tb top (x.take k) = (runWalker true tb top x).mapSt (cutSt (k - consumed tb top x)) := by
  obtain ⟨new, ho, hp, hst, hle, hlt⟩ := runWalker_tr tb top hs x k
  simpa [used, initSt, consumed] using hle (by simpa [used, initSt, consumed] using hk)

theorem stamped_ge {p : Nat} : ∀ {l : List (Nat × Event)}, Stamped p l → ∀ ke ∈ l, p ≤ ke.1
  | [], _, ke, h => by cases h
  | (k, e) :: rest, hs, ke, h => by
    obtain ⟨hk, hr⟩ := hs
    simp only [List.mem_cons] at h
    rcases h with rfl | h
    · simp only; omega
    · have := stamped_ge hr ke h; omega

theorem stamped_filter_prefix (b : Nat) : ∀ {p : Nat} {l : List (Nat × Event)}, Stamped p l →
    l.filter (fun ke => decide (ke.1 ≤ b)) <+: l
  | _, [], _ => by simp
  | p, (k, e) :: rest, hs => by
    by_cases hkb : k ≤ b
    · simp only [List.filter_cons, hkb, decide_true, if_true]
      exact List.prefix_cons_inj _ |>.mpr (stamped_filter_prefix b hs.2)
    · -- stamps only grow: nothing behind passes the filter either
      rw [filter_le_nil]
      · exact List.nil_prefix
      · intro ke hke
        rcases List.mem_cons.mp hke with rfl | hke
        · omega
        · have := stamped_ge hs.2 ke hke; omega

/-- **prefix stability** (C10): the events shown for a prefix of the input are a prefix of the events shown for
the whole input (pull counts aside) -/
theorem prefix_stable (tb : MsgTables) (top : Top) (hs : top.isStream = false) (x : List Byte) (k : Nat) :
    (marshalRun true tb top (x.take k)).evs <+: (marshalRun true tb top x).evs := by
  rw [evs_trace tb top hs, evs_trace tb top hs, traceOf_take tb top hs]
  obtain ⟨_, _, _, h4, _⟩ := trace_acct tb top x
  exact (stamped_filter_prefix k h4).map _
