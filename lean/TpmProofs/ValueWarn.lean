import TpmProofs.PosInp
/-!
# Every out-of-range value is shown, then reported — directly, exactly once (C08 "one warning directly after each offending
event", C07 "the offending event is emitted first, then the warning" at EVERY position)

`Annot known evs`: the event list `evs` is *well annotated* — reading it from the left it consists of
* structure / list events (no value),
* field events whose value is in the declared set of the event's class (`known` looks the class name up in the primitive table),
* field events whose value is NOT in that set, each **directly followed by the warning about exactly that field**
  (`ValueConstraintViolatedError` with the event's path, class and integer),
* warnings of the other kinds (overrun, shortfall, anticipated overrun).
So no value warning stands anywhere but directly behind its offending field event, and no offending field event is without its
warning.  `VW known s r`: the events a warn-mode step adds are well annotated.  It is closed under sequencing and proved for every
walker in warn mode, for every input; the only place a value warning is emitted is `process_primitive`.
-/

inductive Annot (known : String → Option Prim) : List Event → Prop
  | nil : Annot known []
  | struct {m : MEvent} {rest : List Event} : m.val = none → Annot known rest → Annot known (.marshal m :: rest)
  | good {m : MEvent} {x : Int} {p : Prim} {rest : List Event} : m.val = some x → known m.vclass = some p → p.isValid x = true →
      Annot known rest → Annot known (.marshal m :: rest)
  | bad {m : MEvent} {x : Int} {p : Prim} {rest : List Event} : m.val = some x → known m.vclass = some p → p.isValid x = false →
      Annot known rest → Annot known (.marshal m :: .warning (.value m.path m.vclass x) :: rest)
  | other {w : Err} {rest : List Event} : (∀ pa c x, w ≠ .value pa c x) → Annot known rest → Annot known (.warning w :: rest)

theorem Annot.append {known : String → Option Prim} {a b : List Event} (ha : Annot known a) (hb : Annot known b) :
    Annot known (a ++ b) := by
  induction ha with
  | nil => exact hb
  | struct h _ ih => exact Annot.struct h ih
  | good h1 h2 h3 _ ih => exact Annot.good h1 h2 h3 ih
  | bad h1 h2 h3 _ ih => exact Annot.bad h1 h2 h3 ih
  | other h _ ih => exact Annot.other h ih

def VW {α : Type} (known : String → Option Prim) (s : St) (r : R α) : Prop :=
  ∃ new, (stOf r).out = s.out ++ new ∧ Annot known (new.map (·.2))

variable {known : String → Option Prim}

theorem VW.quiet {α : Type} {s : St} {r : R α} (h : (stOf r).out = s.out) : VW known s r :=
  ⟨[], by simp [h], Annot.nil⟩

theorem VW.ok {α : Type} (s : St) (a : α) : VW known s (.ok (a, s) : R α) := VW.quiet rfl
theorem VW.err {α : Type} (s : St) (e : Err) : VW known s (.error (e, s) : R α) := VW.quiet rfl
theorem VW.crash {α : Type} (s : St) (c m : String) : VW known s (crash c m s : R α) := VW.quiet rfl

theorem VW.bind {α β : Type} {s : St} {r : R α} {f : α → St → R β} (h : VW known s r)
    (hf : ∀ a t, r = .ok (a, t) → VW known t (f a t)) : VW known s (r.bind f) := by
  cases r with
  | error e => obtain ⟨e, t⟩ := e; exact h
  | ok at' =>
    obtain ⟨a, t⟩ := at'
    obtain ⟨n1, h1, a1⟩ := h
    obtain ⟨n2, h2, a2⟩ := hf a t rfl
    simp only [stOf] at h1
    refine ⟨n1 ++ n2, ?_, by rw [List.map_append]; exact a1.append a2⟩
    simp only [R.bind_ok]
    rw [h2, h1, List.append_assoc]

/-- the start state may differ in everything but the trace -/
theorem VW.of_out {α : Type} {s s' : St} {r : R α} (h : VW known s' r) (ho : s'.out = s.out) : VW known s r := by
  obtain ⟨n, h1, a⟩ := h
  exact ⟨n, by rw [h1, ho], a⟩

/-- a structure / list event emitted first -/
theorem VW.emitS {α : Type} {s : St} {r : R α} {ev : MEvent} (h : VW known (emitM ev s) r) (hv : ev.val = none) : VW known s r := by
  obtain ⟨n, h1, a⟩ := h
  refine ⟨(s.pos, .marshal ev) :: n, by rw [h1]; simp [emitM, emit], ?_⟩
  simp only [List.map_cons]
  exact Annot.struct hv a

/-- a warning that is not about a value emitted first -/
theorem VW.emitO {α : Type} {s : St} {r : R α} {w : Err} (h : VW known (emitW w s) r) (hw : ∀ pa c x, w ≠ .value pa c x) : VW known s r := by
  obtain ⟨n, h1, a⟩ := h
  refine ⟨(s.pos, .warning w) :: n, by rw [h1]; simp [emitW, emit], ?_⟩
  simp only [List.map_cons]
  exact Annot.other hw a

/-- a warning that is not about a value appended to what a step did (the owners' `except`) -/
theorem VW.snocO {α β : Type} {s t : St} {e : Err} {b : β} (w : Err) (hw : ∀ pa c x, w ≠ .value pa c x)
    (h : VW known s (.error (e, t) : R α)) : VW known s (.ok (b, emitW w t) : R β) := by
  obtain ⟨n, h1, a⟩ := h
  simp only [stOf] at h1
  refine ⟨n ++ [(t.pos, .warning w)], by simp [stOf, emitW, emit, h1], ?_⟩
  rw [List.map_append]
  exact a.append (Annot.other hw Annot.nil)

theorem VW.retype {α β : Type} {s t : St} {e : Err} (h : VW known s (.error (e, t) : R α)) : VW known s (.error (e, t) : R β) := h

theorem bytesParsed_vw (path : Path) (size : Nat) (s : St) : VW known s (bytesParsed path size s) :=
  VW.quiet (bytesParsed_out path size s)

theorem readPrim_vw (p : Prim) (hk : known p.name = some p) (path : Path) (s : St) : VW known s (readPrim false p path s) := by
  unfold readPrim
  refine (bytesParsed_vw path p.size s).bind fun _ t _ => (VW.quiet (take_out p.size t)).bind fun bs t2 _ => ?_
  simp only [Bool.false_eq_true, if_false]
  split
  · rename_i hv
    exact ⟨[(t2.pos, .marshal ⟨path, .named p.name false, some (p.ofBytes bs), p.name, p.size⟩)], by simp [stOf, emitM, emit],
      Annot.good (p := p) rfl hk hv Annot.nil⟩
  · rename_i hv
    exact ⟨[(t2.pos, .marshal ⟨path, .named p.name false, some (p.ofBytes bs), p.name, p.size⟩),
        (t2.pos, .warning (.value path p.name (p.ofBytes bs)))], by simp [stOf, emitM, emitW, emit],
      Annot.bad (p := p) (m := ⟨path, .named p.name false, some (p.ofBytes bs), p.name, p.size⟩) rfl hk (by simpa using hv) Annot.nil⟩

theorem anticipateM_vw (vpath : Path) (v id : Nat) (s : St) : VW known s (anticipateM false vpath v id s) := by
  unfold anticipateM
  split
  · exact VW.ok _ _
  · rename_i e he
    simp only [Bool.false_eq_true, if_false]
    obtain ⟨_, _, _, _, _, rfl⟩ := anticipate_some he
    exact VW.emitO (VW.ok _ _) nofun

theorem openRegion_vw (id : Nat) (cpath : Path) (n : Nat) (s : St) : VW known s (openRegion false id cpath n s) := by
  unfold openRegion
  exact (anticipateM_vw cpath n id s).bind fun _ t _ => VW.of_out (VW.ok _ _) rfl

theorem setListed_vw (id : Nat) (cpath : Path) (n : Nat) (s : St) : VW known s (setListed false id cpath n s) := by
  unfold setListed
  exact VW.of_out (anticipateM_vw cpath n id _) rfl

theorem assertDoneSC_vw (c : SC) (s : St) : VW known s (assertDoneSC false c s) := by
  unfold assertDoneSC
  cases hm : c.max with
  | none => exact VW.crash _ _ _
  | some m =>
    simp only []
    by_cases heq : c.already = m
    · simp only [heq, if_true]; exact VW.ok _ _
    · simp only [heq, Bool.false_eq_true, if_false]
      refine VW.emitO (w := .subceeded c.id c.path m c.already) ?_ (by intro pa c' x h; cases h)
      split
      · exact (bytesParsed_vw _ _ _).bind fun _ t _ => VW.quiet (consume_out _ t)
      · exact VW.ok _ _

theorem VW.caught {s : St} {r q : R Val} {k : Val → St → R Val} (hr : VW known s r)
    (hk : ∀ v t, r = .ok (v, t) → VW known t (k v t)) (hq : Caught false r k q) : VW known s q := by
  cases hq with
  | ok h => subst h; exact hr.bind (f := k) hk
  | pass h => subst h; exact hr
  | warn _ _ h => subst h; exact VW.snocO _ (by intro pa c x h; cases h) hr

def kn (known : String → Option Prim) (p : Prim) : Bool := decide (known p.name = some p)

/-- the two value errors that are *raised* (unknown command code, selector without member) are no events -/
theorem vw_stepInv : StepInv false (fun {α} => @VW α known) (kn known) where
  pure a s := VW.ok s a
  crash cls site s := VW.crash s cls site
  reject e s _ := VW.err s e
  bind := VW.bind
  emit _ hm h := VW.emitS h hm
  scs _ h := VW.of_out h rfl
  caught hr hk hq := hr.caught hk hq
  readPrim p hp := readPrim_vw p (by simpa [kn] using hp)
  openRegion := openRegion_vw
  setListed := setListed_vw
  assertDoneSC := assertDoneSC_vw

theorem decode_vw : (t : Ty) → t.pk (kn known) = true → ∀ (path : Path) (sel : Option Int) (s : St), VW known s (decode false t path sel s) :=
  vw_stepInv.decode

theorem arm_vw : (arms : Arms) → arms.pk (kn known) = true → ∀ (un want : String) (path : Path) (s : St),
    VW known s (decodeArm false arms un want path s) :=
  vw_stepInv.arm

theorem decodeCommand_vw (tb : MsgTables) (hk : tb.pk (kn known) = true) (path : Path) (s0 : St) :
    VW known s0 (decodeCommand false tb path s0) :=
  vw_stepInv.command tb hk path s0

theorem decodeResponse_vw (tb : MsgTables) (hk : tb.pk (kn known) = true) (cc : Option Int) (enc : Bool) (path : Path) (s0 : St) :
    VW known s0 (decodeResponse false tb cc enc path s0) :=
  vw_stepInv.response tb hk cc enc path s0

theorem decodeStream_vw (tb : MsgTables) (hk : tb.pk (kn known) = true) (path : Path) : ∀ (fuel : Nat) (s : St),
    VW known s (decodeStream false tb path fuel s) :=
  vw_stepInv.stream tb hk path

/-- **every warn-mode decode** (every layout whose primitives are the table's, commands, responses, streams; EVERY input): the
trace is well annotated -/
theorem runWalker_vw (tb : MsgTables) (hk : tb.pk (kn known) = true) (top : Top) (htop : ∀ t, top = .ty t → t.pk (kn known) = true)
    (x : List Byte) : Annot known ((stOf (runWalker false tb top x)).out.map (·.2)) := by
  obtain ⟨new, h1, a⟩ := vw_stepInv.runWalker tb hk top htop x
  simp only [initSt, List.nil_append] at h1
  rw [h1]; exact a

/-! ## what a well-annotated trace says, position by position -/

/-- `e` is the warning about the offending field event that `pre` ends with -/
def Behind (known : String → Option Prim) (pre : List Event) (e : Event) : Prop :=
  ∃ pre' m x p, pre = pre' ++ [.marshal m] ∧ e = .warning (.value m.path m.vclass x) ∧ m.val = some x ∧
    known m.vclass = some p ∧ p.isValid x = false

theorem Behind.cons {pre : List Event} {e : Event} (a : Event) : Behind known pre e → Behind known (a :: pre) e
  | ⟨q, m, x, p, hq, r⟩ => ⟨a :: q, m, x, p, by rw [hq]; rfl, r⟩

theorem Annot.at {evs : List Event} (h : Annot known evs) {e : Event} {post : List Event} :
    ∀ pre, evs = pre ++ e :: post → Annot known (e :: post) ∨ Behind known pre e := by
  induction h with
  | nil => intro pre h; simp at h
  | struct hv hr ih =>
    intro pre h
    cases pre with
    | nil => cases h; exact .inl (.struct hv hr)
    | cons a pre => cases h; exact (ih pre rfl).imp id (.cons _)
  | good hv hk hval hr ih =>
    intro pre h
    cases pre with
    | nil => cases h; exact .inl (.good hv hk hval hr)
    | cons a pre => cases h; exact (ih pre rfl).imp id (.cons _)
  | bad hv hk hval hr ih =>
    intro pre h
    match pre with
    | [] => cases h; exact .inl (.bad hv hk hval hr)
    | [a] => cases h; exact .inr ⟨[], _, _, _, rfl, rfl, hv, hk, hval⟩
    | a :: b :: pre => cases h; exact (ih pre rfl).imp id fun h => (h.cons _).cons _
  | other hw hr ih =>
    intro pre h
    cases pre with
    | nil => cases h; exact .inl (.other hw hr)
    | cons a pre => cases h; exact (ih pre rfl).imp id (.cons _)

/-- every value warning stands directly behind the event of the field it is about, and that field's value is outside the declared
set of its class -/
theorem Annot.warning_follows {evs : List Event} (h : Annot known evs) :
    ∀ (pre : List Event) (pa : Path) (c : String) (x : Int) (post : List Event), evs = pre ++ .warning (.value pa c x) :: post →
      ∃ pre' m p, pre = pre' ++ [.marshal m] ∧ m.path = pa ∧ m.vclass = c ∧ m.val = some x ∧ known c = some p ∧ p.isValid x = false := by
  intro pre pa c x post he
  rcases h.at pre he with h' | ⟨pre', m, y, p, hp, hw, r⟩
  · cases h' with
    | other hw _ => exact absurd rfl (hw pa c x)
  · cases hw
    exact ⟨pre', m, p, hp, rfl, rfl, r⟩

/-- every field event whose value is outside the declared set of its class is directly followed by the warning about exactly it -/
theorem Annot.offender_warned {evs : List Event} (h : Annot known evs) :
    ∀ (pre : List Event) (m : MEvent) (x : Int) (p : Prim) (post : List Event), evs = pre ++ .marshal m :: post →
      m.val = some x → known m.vclass = some p → p.isValid x = false →
      ∃ post', post = .warning (.value m.path m.vclass x) :: post' := by
  intro pre m x p post he hx hk hb
  rcases h.at pre he with h' | ⟨_, _, _, _, _, hw, _⟩
  · cases h' with
    | struct hv _ => rw [hv] at hx; cases hx
    | good hv hk' hval _ =>
      rw [hv] at hx; cases hx
      rw [hk'] at hk; cases hk
      rw [hval] at hb; cases hb
    | bad hv _ _ _ => rw [hv] at hx; cases hx; exact ⟨_, rfl⟩
  · cases hw
