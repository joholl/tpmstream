import TpmProofs.SpecInv
/-!
# Where the events of a well-formed encoding sit in the path tree

Every event dictated for a value at `path` has a path that extends `path` (`spec_within`, for any relation between paths
that holds of a path and itself and is inherited from a path's extensions).  Here the instance "at least as long as
`path`": the events of a message other than its root event are strictly below the message's path.
-/

/-- every event's path satisfies `P` -/
def Within (P : Path → Prop) (evs : List SEv) : Prop := ∀ e ∈ evs, P e.2.path

theorem Within.nil (P : Path → Prop) : Within P [] := by intro e he; cases he

theorem Within.cons {P : Path → Prop} {e : SEv} {evs : List SEv} (h1 : P e.2.path) (h2 : Within P evs) :
    Within P (e :: evs) := by
  intro x hx
  cases hx with
  | head => exact h1
  | tail _ h => exact h2 x h

theorem Within.append {P : Path → Prop} {a b : List SEv} (h1 : Within P a) (h2 : Within P b) : Within P (a ++ b) := by
  intro x hx
  rcases List.mem_append.mp hx with h | h
  · exact h1 x h
  · exact h2 x h

theorem Within.shift {P : Path → Prop} {a : List SEv} (k : Nat) (h : Within P a) : Within P (shift k a) := by
  intro x hx
  simp only [_root_.shift, List.mem_map] at hx
  obtain ⟨y, hy, rfl⟩ := hx
  exact h y hy

theorem Within.mono {P Q : Path → Prop} {a : List SEv} (hPQ : ∀ q, P q → Q q) (h : Within P a) : Within Q a :=
  fun e he => hPQ _ (h e he)

theorem elemPath_snoc (pre : Path) (name : String) (i : Nat) :
    elemPath (pre ++ [⟨name, none⟩]) i = pre ++ [⟨name, some i⟩] := by
  simp [elemPath]

theorem specPrim_within {R : Path → Path → Prop} (refl : ∀ p, R p p) {p : Prim} {path : Path} {v : Val} {bs : List Byte}
    {evs : List SEv} (h : specPrim p path v = some (bs, evs)) : Within (R path) evs := by
  unfold specPrim at h
  split at h
  · cases h
  · split at h
    · simp only [Option.some.injEq, Prod.mk.injEq] at h
      obtain ⟨_, rfl⟩ := h
      exact Within.cons (refl _) (Within.nil _)
    · cases h

/-- the events of a list's elements: each is related to the path of the element it belongs to -/
theorem specRepeat_within {R : Path → Path → Prop} (f : Path → Val → Option (List Byte × List SEv))
    (hf : ∀ p v bs evs, f p v = some (bs, evs) → Within (R p) evs) (path : Path) :
    ∀ (vs : List Val) (i : Nat) (bs : List Byte) (evs : List SEv), specRepeat f path vs i = some (bs, evs) →
      Within (fun q => ∃ j, R (elemPath path j) q) evs
  | [], i, bs, evs, h => by
    simp only [specRepeat, Option.some.injEq, Prod.mk.injEq] at h
    obtain ⟨_, rfl⟩ := h
    exact Within.nil _
  | v :: vs, i, bs, evs, h => by
    obtain ⟨b, e, bs', es', hfe, hrest, _, rfl⟩ := specRepeat_cons_inv h
    exact Within.append (Within.mono (fun q hq => ⟨i, hq⟩) (hf _ _ _ _ hfe))
      (Within.shift _ (specRepeat_within f hf path vs (i+1) bs' es' hrest))

section
variable {R : Path → Path → Prop} (refl : ∀ p, R p p) (snoc : ∀ p x q, R (p ++ [x]) q → R p q)
include refl snoc

/-- a list below `path`: its own event and the events of its elements -/
theorem list_within {f : Path → Val → Option (List Byte × List SEv)}
    (hf : ∀ p v bs evs, f p v = some (bs, evs) → Within (R p) evs) {path : Path} {name tn : String} {vs : List Val}
    {bs : List Byte} {evs : List SEv} (h : specRepeat f (path ++ [⟨name, none⟩]) vs 0 = some (bs, evs)) :
    Within (R path) ((0, ⟨path ++ [⟨name, none⟩], .listOf tn, none, "", 0⟩) :: evs) := by
  refine Within.cons (snoc _ _ _ (refl _)) (Within.mono ?_ (specRepeat_within f hf _ vs 0 bs evs h))
  rintro q ⟨j, hq⟩
  rw [elemPath_snoc] at hq
  exact snoc _ _ _ hq

theorem specPrimList_within {p : Prim} {path : Path} {name : String} {n : Nat} {v : Val} {bs : List Byte} {evs : List SEv}
    (h : specPrimList p (path ++ [⟨name, none⟩]) n v = some (bs, evs)) : Within (R path) evs := by
  obtain ⟨vs, e, _, _, hr, rfl⟩ := specPrimList_inv h
  exact list_within refl snoc (fun _ _ _ _ h => specPrim_within refl h) hr

theorem specFieldWith_within (g : Path → Option Int → Val → Option (List Byte × List SEv))
    (hg : ∀ p sel v bs evs, g p sel v = some (bs, evs) → Within (R p) evs) {tname : String} {kind : FKind} {path : Path}
    {name : String} {vals : List (String × Val)} {v : Val} {bs : List Byte} {evs : List SEv}
    (h : specFieldWith g tname kind (path ++ [⟨name, none⟩]) vals v = some (bs, evs)) : Within (R path) evs := by
  rcases specFieldWith_inv h with ⟨_, sel, hs⟩ | ⟨_, es, e, _, _, hr, rfl⟩
  · exact Within.mono (snoc _ _) (hg _ _ _ _ _ hs)
  · exact list_within refl snoc (fun p v bs evs h => hg p none v bs evs h) hr

mutual
theorem spec_within : (t : Ty) → ∀ (path : Path) (sel : Option Int) (v : Val) (bs : List Byte) (evs : List SEv),
    spec t path sel v = some (bs, evs) → Within (R path) evs
  | .prim p, path, sel, v, bs, evs, h => by
    simp only [spec] at h
    exact specPrim_within refl h
  | .struct name isP fs, path, sel, v, bs, evs, h => by
    obtain ⟨fvs, e, _, hr, rfl⟩ := spec_struct_inv h
    exact Within.cons (refl _) (specFields_within fs path _ _ bs e hr)
  | .tpm2bBytes name szName szP bufName elem, path, sel, v, bs, evs, h => by
    obtain ⟨nv, bv, nb, ne, n, bb, be, _, hsz, _, hl, _, _, rfl⟩ := spec_tpm2bBytes_inv h
    exact Within.cons (refl _) (Within.append (Within.mono (snoc _ _) (specPrim_within refl hsz))
      (Within.shift _ (specPrimList_within refl snoc hl)))
  | .tpm2b name szName szP bufName body, path, sel, v, bs, evs, h => by
    obtain ⟨nv, bv, nb, ne, n, _, hsz, _, _, hcase⟩ := spec_tpm2b_inv h
    have hne := Within.mono (snoc path _) (specPrim_within refl hsz)
    rcases hcase with ⟨_, _, _, rfl⟩ | ⟨_, bb, be, hb, _, _, _, rfl⟩
    · exact Within.cons (refl _) (Within.append hne (Within.cons (snoc _ _ _ (refl _)) (Within.nil _)))
    · exact Within.cons (refl _) (Within.append hne
        (Within.shift _ (Within.mono (snoc _ _) (spec_within body _ none _ bb be hb))))
  | .union name arms, path, sel, v, bs, evs, h => by
    obtain ⟨an, e, _, hr, rfl⟩ := spec_union_inv h
    exact Within.cons (refl _) (specArm_within arms _ _ path v bs e hr)
  | .bad _, path, sel, v, bs, evs, h => by simp [spec] at h

theorem specArm_within : (arms : Arms) → ∀ (un want : String) (path : Path) (v : Val) (bs : List Byte) (evs : List SEv),
    specArm arms un want path v = some (bs, evs) → Within (R path) evs
  | .nil, un, want, path, v, bs, evs, h => by simp [specArm] at h
  | .consNone an _ rest, un, want, path, v, bs, evs, h => by
    rcases specArm_consNone_inv h with ⟨_, _, _, rfl⟩ | ⟨_, h⟩
    · exact Within.nil _
    · exact specArm_within rest un want path v bs evs h
  | .cons an _ t rest, un, want, path, v, bs, evs, h => by
    rcases specArm_cons_inv h with ⟨_, av, _, h⟩ | ⟨_, h⟩
    · exact Within.mono (snoc _ _) (spec_within t _ none _ bs evs h)
    · exact specArm_within rest un want path v bs evs h
  | .consBytes an _ elem n rest, un, want, path, v, bs, evs, h => by
    rcases specArm_consBytes_inv h with ⟨_, av, c, _, _, h⟩ | ⟨_, h⟩
    · exact specPrimList_within refl snoc h
    · exact specArm_within rest un want path v bs evs h

theorem specFields_within : (fs : Fields) → ∀ (path : Path) (vals fvs : List (String × Val)) (bs : List Byte)
    (evs : List SEv), specFields fs path vals fvs = some (bs, evs) → Within (R path) evs
  | .nil, path, vals, fvs, bs, evs, h => by
    obtain ⟨_, _, rfl⟩ := specFields_nil_inv h
    exact Within.nil _
  | .cons fname kind t rest, path, vals, fvs, bs, evs, h => by
    obtain ⟨v, fvs', b, e, bs', es', _, hf, hr, _, rfl⟩ := specFields_cons_inv h
    exact Within.append (specFieldWith_within refl snoc _ (fun p sel v bs evs h => spec_within t p sel v bs evs h) hf)
      (Within.shift _ (specFields_within rest path _ fvs' bs' es' hr))
end

end

/-! ## depth -/

def Deep (n : Nat) (evs : List SEv) : Prop := ∀ e ∈ evs, n ≤ e.2.path.length

theorem Deep.nil (n : Nat) : Deep n [] := Within.nil fun q => n ≤ q.length

theorem Deep.cons {n : Nat} {e : SEv} {evs : List SEv} (h1 : n ≤ e.2.path.length) (h2 : Deep n evs) :
    Deep n (e :: evs) :=
  Within.cons (P := fun q => n ≤ q.length) h1 h2

theorem Deep.append {n : Nat} {a b : List SEv} (h1 : Deep n a) (h2 : Deep n b) : Deep n (a ++ b) :=
  Within.append (P := fun q => n ≤ q.length) h1 h2

theorem Deep.shift {n : Nat} {a : List SEv} (k : Nat) (h : Deep n a) : Deep n (shift k a) :=
  Within.shift (P := fun q => n ≤ q.length) k h

theorem length_snoc_le (p : Path) (x : PathNode) (q : Path) (h : (p ++ [x]).length ≤ q.length) : p.length ≤ q.length := by
  rw [List.length_append] at h
  omega

theorem specPrim_deep {p : Prim} {path : Path} {v : Val} {bs : List Byte} {evs : List SEv}
    (h : specPrim p path v = some (bs, evs)) : Deep path.length evs :=
  specPrim_within (R := fun p q => p.length ≤ q.length) (fun _ => Nat.le_refl _) h

/-- the elements of a list at `path` have paths of the same length as `path` -/
theorem specRepeat_deep (f : Path → Val → Option (List Byte × List SEv))
    (hf : ∀ p v bs evs, f p v = some (bs, evs) → Deep p.length evs) (path : Path)
    (vs : List Val) (i : Nat) (bs : List Byte) (evs : List SEv) (h : specRepeat f path vs i = some (bs, evs)) :
    Deep path.length evs := by
  refine Within.mono (Q := fun q => path.length ≤ q.length) ?_
    (specRepeat_within (R := fun p q => p.length ≤ q.length) f hf path vs i bs evs h)
  rintro q ⟨j, hq⟩
  have : path.length ≤ (elemPath path j).length := by simp [elemPath]; omega
  omega

theorem spec_deep : (t : Ty) → ∀ (path : Path) (sel : Option Int) (v : Val) (bs : List Byte) (evs : List SEv),
    spec t path sel v = some (bs, evs) → Deep path.length evs :=
  spec_within (R := fun p q => p.length ≤ q.length) (fun _ => Nat.le_refl _) length_snoc_le

theorem specArm_deep : (arms : Arms) → ∀ (un want : String) (path : Path) (v : Val) (bs : List Byte) (evs : List SEv),
    specArm arms un want path v = some (bs, evs) → Deep path.length evs :=
  specArm_within (R := fun p q => p.length ≤ q.length) (fun _ => Nat.le_refl _) length_snoc_le

theorem specFields_deep : (fs : Fields) → ∀ (path : Path) (vals fvs : List (String × Val)) (bs : List Byte) (evs : List SEv),
    specFields fs path vals fvs = some (bs, evs) → Deep path.length evs :=
  specFields_within (R := fun p q => p.length ≤ q.length) (fun _ => Nat.le_refl _) length_snoc_le
