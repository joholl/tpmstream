import TpmProofs.E2OMsg
import TpmProofs.MsgPump
/-!
# `events_to_objs` on the events of a well-formed stream: one object per message, in order (C09)
-/

def mEvs (evs : List SEv) : List Event := evs.map fun e => .marshal e.2

def isRootEv (e : Event) : Bool :=
  match e with
  | .marshal m => m.path == rootPath
  | .warning _ => false

theorem separateEvents_cons (e : Event) (rest cur : List Event) :
    separateEvents (e :: rest) cur =
      if isRootEv e && !cur.isEmpty then cur :: separateEvents rest [e] else separateEvents rest (cur ++ [e]) := by
  cases e <;> rfl

/-- events that are not at the root path join the current group -/
theorem separateEvents_absorb : ∀ (g T cur : List Event), (∀ e ∈ g, isRootEv e = false) →
    separateEvents (g ++ T) cur = separateEvents T (cur ++ g)
  | [], T, cur, _ => by simp
  | e :: g, T, cur, h => by
    rw [List.cons_append, separateEvents_cons, h e (List.mem_cons_self ..)]
    simp only [Bool.false_and, Bool.false_eq_true, if_false]
    rw [separateEvents_absorb g T (cur ++ [e]) (fun x hx => h x (List.mem_cons_of_mem _ hx))]
    simp

theorem deep_not_root {rest : List SEv} (h : Deep (rootPath.length + 1) rest) : ∀ e ∈ mEvs rest, isRootEv e = false := by
  intro e he
  simp only [mEvs, List.mem_map] at he
  obtain ⟨x, hx, rfl⟩ := he
  have := h x hx
  simp only [isRootEv]
  apply beq_false_of_ne
  intro heq
  rw [heq] at this
  simp [rootPath] at this

theorem mEvs_append (a b : List SEv) : mEvs (a ++ b) = mEvs a ++ mEvs b := by simp [mEvs]
theorem mEvs_shift (k : Nat) (a : List SEv) : mEvs (shift k a) = mEvs a := by simp [mEvs, shift]
theorem marshalsOf_mEvs (a : List SEv) : marshalsOf (mEvs a) = a.map (·.2) := by
  simp only [marshalsOf, mEvs, List.filterMap_map]
  induction a with
  | nil => rfl
  | cons e rest ih => rw [List.filterMap_cons, ih]; simp

/-- the objects of a stream: the messages' objects, in order -/
def streamObjs (last : Option CmdParts) : List (CmdParts × RspParts) → List Val
  | [] => match last with
    | none => []
    | some c => [c.toVal]
  | (c, r) :: more => c.toVal :: r.toVal :: streamObjs last more

/-- the groups `separate_events` forms: one per message -/
def streamGroups (tb : MsgTables) (last : Option CmdParts) : List (CmdParts × RspParts) → List (List Event)
  | [] => match last with
    | none => []
    | some c => match specCommand tb rootPath c with
      | some (_, ec) => [mEvs ec]
      | none => []
  | (c, r) :: more =>
    match specCommand tb rootPath c, cmdEncrypt tb c.toVal with
    | some (_, ec), .ok enc =>
      (match specResponse tb (vInt c.ccv) enc rootPath r with
       | some (_, er) => mEvs ec :: mEvs er :: streamGroups tb last more
       | none => [])
    | _, _ => []

theorem separateEvents_group {m : MEvent} {rest : List SEv} (hm : m.path = rootPath) (hd : Deep (rootPath.length + 1) rest)
    (T cur : List Event) :
    separateEvents (mEvs ((0, m) :: rest) ++ T) cur = (if cur.isEmpty then [] else [cur]) ++ separateEvents T (mEvs ((0, m) :: rest)) := by
  rw [show mEvs ((0, m) :: rest) = .marshal m :: mEvs rest from rfl, List.cons_append, separateEvents_cons,
    show isRootEv (.marshal m) = true by simp [isRootEv, hm]]
  cases cur <;> simp [separateEvents_absorb _ _ _ (deep_not_root hd)]

theorem separate_stream (tb : MsgTables) (last : Option CmdParts) :
    ∀ (xs : List (CmdParts × RspParts)) (bs : List Byte) (evs : List SEv),
      specStream tb rootPath last xs = some (bs, evs) → ∀ cur : List Event,
      separateEvents (mEvs evs) cur = (if cur.isEmpty then [] else [cur]) ++ streamGroups tb last xs := by
  refine specStream_ind ?_ ?_ ?_
  · rintro rfl cur
    simp only [mEvs, List.map_nil, separateEvents, streamGroups, List.append_nil]
  · rintro c bc ec enc rfl hc - cur
    obtain ⟨rest, rfl, hd⟩ := specCommand_shape hc
    have := separateEvents_group (m := ⟨rootPath, .named "Command" false, none, "", 0⟩) rfl hd [] cur
    rw [List.append_nil] at this
    rw [this]
    simp [streamGroups, hc, separateEvents, mEvs]
  · intro c r more bc ec enc br er bm em hc henc hr hm ih cur
    obtain ⟨restc, hec, hdc⟩ := specCommand_shape hc
    obtain ⟨restr, her, hdr⟩ := specResponse_shape hr
    rw [mEvs_append, mEvs_shift, mEvs_append, mEvs_shift, hec, separateEvents_group rfl hdc, her,
      separateEvents_group rfl hdr, ih]
    simp [streamGroups, hc, henc, hr, hec, her, mEvs]

theorem specCommand_ccv {tb : MsgTables} {path : Path} {c : CmdParts} {bs : List Byte} {evs : List SEv}
    (h : specCommand tb path c = some (bs, evs)) : ∃ x, c.ccv = .int tb.cc.name x := by
  unfold specCommand at h
  split at h
  · rename_i b1 e1 b2 e2 b3 e3 h1 h2 h3
    unfold specPrim at h3
    split at h3
    · cases h3
    · rename_i x hx
      exact ⟨x, asIntOf_inv hx⟩
  · cases h

theorem e2oTop_response_flag (tb : MsgTables) (cc : Option Int) (e1 e2 : Bool) (evs : List MEvent) :
    e2oTop tb (.response cc e1) evs = e2oTop tb (.response cc e2) evs := by
  simp only [e2oTop]

/-- **C09, objects**: `events_to_objs` of the events of a well-formed stream yields exactly one object per message, in
order — each command, then its response rebuilt with that command's code — and does not raise -/
theorem e2oStream_groups (tb : MsgTables) (hok : tb.eo = true) (last : Option CmdParts) :
    ∀ (xs : List (CmdParts × RspParts)) (bs : List Byte) (evs : List SEv),
      specStream tb rootPath last xs = some (bs, evs) →
      e2oStream tb none (streamGroups tb last xs) = (streamObjs last xs, false) := by
  refine specStream_ind ?_ ?_ ?_
  · rintro rfl
    simp [streamGroups, streamObjs, e2oStream]
  · rintro c bc ec enc rfl hc -
    obtain ⟨x, hx⟩ := specCommand_ccv hc
    simp only [streamGroups, hc, streamObjs, e2oStream, marshalsOf_mEvs, cmd_events_to_obj tb hok c bc ec hc]
    simp [CmdParts.toVal, lookupVal, List.find?, hx]
  · intro c r more bc ec enc br er bm em hc henc hr hm ih
    obtain ⟨x, hx⟩ := specCommand_ccv hc
    have hv : vInt c.ccv = some x := by rw [hx]; rfl
    rw [hv] at hr
    have hrobj := rsp_events_to_obj tb hok (some x) enc r br er hr
    rw [e2oTop_response_flag tb (some x) enc false] at hrobj
    simp only [streamGroups, hc, henc, hv, hr, streamObjs, e2oStream, marshalsOf_mEvs, cmd_events_to_obj tb hok c bc ec hc]
    simp [CmdParts.toVal, lookupVal, List.find?, hx, hrobj, ih]
