import TpmProofs.Transport
/-!
# Decoding a message does not depend on where in the input it starts, nor on what follows it

`shiftSt d y pre s`: the state `s` seen `d` bytes further into a longer input — the remaining input extended by `y`, the position
and every region id moved by `d`, the trace re-stamped and put behind the events `pre` of what came before.  For every walker, in
either mode: unless `y` is non-empty and the run from `s` runs out of input (`depleted` — with more input behind it would go on), the run from the shifted
state is the shifted run:

    ND (decode abort t path sel s) → decode abort t path sel (shiftSt d y pre s) = shiftR d y pre (decode abort t path sel s)

(region ids are only ever compared with each other, so moving them all by `d` changes nothing; overruns that are caught and reported
carry the moved id).  This is what makes a stream decode the concatenation of its messages' decodes for ARBITRARY messages — also
malformed ones in warn mode — as long as each message, decoded on its own, is consumed completely (`Props/C09S.lean`).

The equation is the case "paths stay" of the transport development (`Transport.lean`).
-/

section
variable (d : Nat) (y : List Byte) (pre : List (Nat × Event))

def shErr : Err → Err
  | .exceeded cid cp m a v b => .exceeded (cid + d) cp m a v b
  | .subceeded cid cp m a => .subceeded (cid + d) cp m a
  | .anticipated cid cp m a v x b => .anticipated (cid + d) cp m a v x b
  | e => e

def shEv : Event → Event
  | .marshal m => .marshal m
  | .warning e => .warning (shErr d e)

def shSC (c : SC) : SC := { c with id := c.id + d }

def shiftSt (s : St) : St :=
  { inp := s.inp ++ y, pos := s.pos + d, out := pre ++ s.out.map (fun ke => (ke.1 + d, shEv d ke.2)), scs := s.scs.map (shSC d) }

def shiftR {α : Type} : R α → R α
  | .ok (a, s) => .ok (a, shiftSt d y pre s)
  | .error (e, s) => .error (shErr d e, shiftSt d y pre s)

variable {d y pre}

@[simp] theorem shiftSt_pos (s : St) : (shiftSt d y pre s).pos = s.pos + d := rfl
@[simp] theorem shiftSt_inp (s : St) : (shiftSt d y pre s).inp = s.inp ++ y := rfl
@[simp] theorem shiftSt_scs (s : St) : (shiftSt d y pre s).scs = s.scs.map (shSC d) := rfl

/-! The shift is the transport that leaves paths alone. -/

theorem shErr_eq (e : Err) : shErr d e = (⟨id, d, y, pre⟩ : Tp).err e := by
  cases e <;> rfl

theorem shEv_eq (e : Event) : shEv d e = (⟨id, d, y, pre⟩ : Tp).ev e := by
  cases e with
  | marshal m => rfl
  | warning e => exact congrArg Event.warning (shErr_eq e)

theorem shiftSt_eq_st (s : St) : shiftSt d y pre s = (⟨id, d, y, pre⟩ : Tp).st s := by
  simp only [shiftSt, Tp.st, shEv_eq (y := y) (pre := pre)]; rfl

theorem shiftR_eq_r {α : Type} (r : R α) : shiftR d y pre r = (⟨id, d, y, pre⟩ : Tp).r r := by
  cases r with
  | ok at' => simp only [shiftR, Tp.r, shiftSt_eq_st]
  | error et => simp only [shiftR, Tp.r, shiftSt_eq_st, shErr_eq (y := y) (pre := pre)]

theorem sh_of_rel {α : Type} {r r' : R α} (h : (⟨id, d, y, pre⟩ : Tp).Rel r' r) (hnd : ND y r) : r' = shiftR d y pre r :=
  (h hnd).trans (shiftR_eq_r r).symm

theorem ext_id (p : Path) : Ext id p := fun _ => rfl

theorem take_sh (n : Nat) (s : St) (h : ND y (take n s)) : take n (shiftSt d y pre s) = shiftR d y pre (take n s) := by
  rw [shiftSt_eq_st]; exact sh_of_rel (Tp.take_rel n s) h

theorem decode_sh (abort : Bool) : (t : Ty) → ∀ (path : Path) (sel : Option Int) (s : St), ND y (decode abort t path sel s) →
    decode abort t path sel (shiftSt d y pre s) = shiftR d y pre (decode abort t path sel s) := fun t path sel s h => by
  rw [shiftSt_eq_st]; exact sh_of_rel (Tp.decode_rel abort t path (ext_id path) sel s) h

theorem arm_sh (abort : Bool) : (arms : Arms) → ∀ (un want : String) (path : Path) (s : St), ND y (decodeArm abort arms un want path s) →
    decodeArm abort arms un want path (shiftSt d y pre s) = shiftR d y pre (decodeArm abort arms un want path s) :=
  fun arms un want path s h => by
  rw [shiftSt_eq_st]; exact sh_of_rel (Tp.arm_rel abort arms un want path (ext_id path) s) h
end

section
variable {d : Nat} {y : List Byte} {pre : List (Nat × Event)}

theorem decodeCommand_sh (abort : Bool) (tb : MsgTables) (path : Path) (s0 : St) :
    ND y (decodeCommand abort tb path s0) →
    decodeCommand abort tb path (shiftSt d y pre s0) = shiftR d y pre (decodeCommand abort tb path s0) := by
  rw [shiftSt_eq_st]; exact sh_of_rel (Tp.decodeCommand_rel rfl abort tb (ext_id path) s0)

theorem decodeResponse_sh (abort : Bool) (tb : MsgTables) (cc : Option Int) (enc : Bool) (path : Path) (s0 : St) :
    ND y (decodeResponse abort tb cc enc path s0) →
    decodeResponse abort tb cc enc path (shiftSt d y pre s0) = shiftR d y pre (decodeResponse abort tb cc enc path s0) := by
  rw [shiftSt_eq_st]; exact sh_of_rel (Tp.decodeResponse_rel rfl abort tb cc enc (ext_id path) s0)
end


/-! ## a stream of arbitrary messages is the concatenation of its messages' decodes -/

/-- the trace of a message decoded on its own, moved to byte `p` of the stream -/
def shOut (p : Nat) (o : List (Nat × Event)) : List (Nat × Event) := o.map fun ke => (ke.1 + p, shEv p ke.2)

/-- decode the exchanges one by one, each command and each response ON ITS OWN bytes from a fresh state — the response under its
command's code and the encrypt flag of its command's sessions — and chain the traces; `none` if a message does not complete or is
not consumed completely -/
def runMsgs (abort : Bool) (tb : MsgTables) (path : Path) : List (List Byte × List Byte) → Nat → List (Nat × Event) →
    Option (Nat × List (Nat × Event))
  | [], pos, out => some (pos, out)
  | (c, r) :: rest, pos, out =>
    if c.isEmpty || r.isEmpty then none else
    match decodeCommand abort tb path (initSt c) with
    | .ok (cv, tc) =>
      if !tc.inp.isEmpty then none else
      match cmdEncrypt tb cv with
      | .error _ => none
      | .ok enc =>
        match decodeResponse abort tb ((objField cv "commandCode").bind vInt) enc path (initSt r) with
        | .ok (_, tr) =>
          if !tr.inp.isEmpty then none else
          runMsgs abort tb path rest (pos + tc.pos + tr.pos) (out ++ shOut pos tc.out ++ shOut (pos + tc.pos) tr.out)
        | .error _ => none
    | .error _ => none

def flat (msgs : List (List Byte × List Byte)) : List Byte := (msgs.map fun cr => cr.1 ++ cr.2).flatten

theorem nd_ok {α : Type} {r : R α} {a : α} {t : St} (h : r = .ok (a, t)) : ND y r := by
  refine Or.inr (fun t' h' => ?_); rw [h] at h'; cases h'

theorem nd_nil {α : Type} (r : R α) : ND ([] : List Byte) r := Or.inl rfl

theorem nd_error {α : Type} {r : R α} {e : Err} {t : St} (h : r = .error (e, t)) (he : e ≠ .depleted) : ND y r := by
  refine Or.inr (fun t' h' => ?_); rw [h] at h'; cases h'; exact he rfl

theorem st_append_eq_shiftSt (x y : List Byte) (pos : Nat) (out : List (Nat × Event)) (scs : List SC) :
    (⟨x ++ y, pos, out, scs⟩ : St) = { shiftSt pos y out (initSt x) with scs := scs } := by simp [shiftSt, initSt]

theorem decodeCommand_at (abort : Bool) (tb : MsgTables) (path : Path) (c y : List Byte) (pos : Nat) (out : List (Nat × Event))
    (scs : List SC) (h : ND y (decodeCommand abort tb path (initSt c))) :
    decodeCommand abort tb path ⟨c ++ y, pos, out, scs⟩ = shiftR pos y out (decodeCommand abort tb path (initSt c)) := by
  rw [st_append_eq_shiftSt]; exact decodeCommand_sh abort tb path (initSt c) h

theorem decodeResponse_at (abort : Bool) (tb : MsgTables) (cc : Option Int) (enc : Bool) (path : Path) (r y : List Byte) (pos : Nat)
    (out : List (Nat × Event)) (scs : List SC) (h : ND y (decodeResponse abort tb cc enc path (initSt r))) :
    decodeResponse abort tb cc enc path ⟨r ++ y, pos, out, scs⟩ =
      shiftR pos y out (decodeResponse abort tb cc enc path (initSt r)) := by
  rw [st_append_eq_shiftSt]; exact decodeResponse_sh abort tb cc enc path (initSt r) h

theorem shiftSt_mk (d : Nat) (y : List Byte) (pre : List (Nat × Event)) (t : St) :
    shiftSt d y pre t = ⟨t.inp ++ y, t.pos + d, pre ++ shOut d t.out, t.scs.map (shSC d)⟩ := rfl

theorem isEmpty_append_of_ne {α : Type} {a : List α} (b : List α) (h : a.isEmpty = false) : (a ++ b).isEmpty = false := by
  cases a with
  | nil => cases h
  | cons => rfl

theorem stream_turn (abort : Bool) (tb : MsgTables) (path : Path) (n : Nat) (c y : List Byte) (pos : Nat) (out : List (Nat × Event))
    (scs : List SC) (hc : c.isEmpty = false) (hy : y.isEmpty = false) {cv : Val} {tc : St}
    (hcmd : decodeCommand abort tb path (initSt c) = .ok (cv, tc)) (htc : tc.inp = []) {enc : Bool} (henc : cmdEncrypt tb cv = .ok enc) :
    decodeStream abort tb path (n + 1) ⟨c ++ y, pos, out, scs⟩ =
      (decodeResponse abort tb ((objField cv "commandCode").bind vInt) enc path
        ⟨y, tc.pos + pos, out ++ shOut pos tc.out, tc.scs.map (shSC pos)⟩).bind fun _ s => decodeStream abort tb path n s := by
  rw [decodeStream, decodeCommand_at abort tb path c y pos out scs (nd_ok hcmd), hcmd]
  simp only [isEmpty_append_of_ne y hc, Bool.false_eq_true, if_false, shiftR, R.bind_ok, henc, shiftSt_mk, htc, List.nil_append, hy]

theorem runMsgs_cons {abort : Bool} {tb : MsgTables} {path : Path} {c r : List Byte} {rest : List (List Byte × List Byte)} {pos : Nat}
    {out : List (Nat × Event)} {res : Nat × List (Nat × Event)} (h : runMsgs abort tb path ((c, r) :: rest) pos out = some res) :
    c.isEmpty = false ∧ r.isEmpty = false ∧ ∃ cv tc enc rv tr,
      decodeCommand abort tb path (initSt c) = .ok (cv, tc) ∧ tc.inp = [] ∧ cmdEncrypt tb cv = .ok enc ∧
      decodeResponse abort tb ((objField cv "commandCode").bind vInt) enc path (initSt r) = .ok (rv, tr) ∧ tr.inp = [] ∧
      runMsgs abort tb path rest (pos + tc.pos + tr.pos) (out ++ shOut pos tc.out ++ shOut (pos + tc.pos) tr.out) = some res := by
  simp only [runMsgs] at h
  split at h
  · cases h
  · rename_i hne
    simp only [Bool.or_eq_true, not_or, Bool.not_eq_true] at hne
    split at h
    · rename_i cv tc hcmd
      split at h
      · cases h
      · rename_i htc
        split at h
        · cases h
        · rename_i enc henc
          split at h
          · rename_i rv tr hrsp
            split at h
            · cases h
            · rename_i htr
              exact ⟨hne.1, hne.2, cv, tc, enc, rv, tr, hcmd, by simpa using htc, henc, hrsp, by simpa using htr, h⟩
          · cases h
    · cases h

/-- the chain lemma with an arbitrary tail: after the messages that decode on their own, the stream loop continues on what follows
from the state the chain leaves -/
theorem stream_chain_then (abort : Bool) (tb : MsgTables) (path : Path) (z : List Byte) :
    ∀ (msgs : List (List Byte × List Byte)) (pos : Nat) (out : List (Nat × Event)) (scs : List SC) (pos' : Nat) (out' : List (Nat × Event)),
    runMsgs abort tb path msgs pos out = some (pos', out') →
    ∀ fuel, msgs.length < fuel →
    ∃ scs', decodeStream abort tb path fuel ⟨flat msgs ++ z, pos, out, scs⟩ =
      decodeStream abort tb path (fuel - msgs.length) ⟨z, pos', out', scs'⟩ := by
  intro msgs
  induction msgs with
  | nil =>
    intro pos out scs pos' out' h fuel hf
    simp only [runMsgs, Option.some.injEq, Prod.mk.injEq] at h
    obtain ⟨rfl, rfl⟩ := h
    exact ⟨scs, by simp [flat]⟩
  | cons cr rest ih =>
    intro pos out scs pos' out' h fuel hf
    obtain ⟨c, r⟩ := cr
    obtain ⟨n, rfl⟩ : ∃ n, fuel = n + 1 := ⟨fuel - 1, by omega⟩
    obtain ⟨hc, hr, cv, tc, enc, rv, tr, hcmd, htc, henc, hrsp, htr, h⟩ := runMsgs_cons h
    have hflat : flat ((c, r) :: rest) ++ z = c ++ (r ++ (flat rest ++ z)) := by simp [flat, List.append_assoc]
    rw [hflat, stream_turn abort tb path n c _ pos out scs hc (isEmpty_append_of_ne _ hr) hcmd htc henc,
      decodeResponse_at _ _ _ _ _ r _ _ _ _ (nd_ok hrsp), hrsp]
    simp only [shiftR, R.bind_ok, shiftSt_mk, htr, List.nil_append]
    obtain ⟨scs', hih⟩ := ih (pos + tc.pos + tr.pos) (out ++ shOut pos tc.out ++ shOut (pos + tc.pos) tr.out)
      (tr.scs.map (shSC (pos + tc.pos))) pos' out' h n (by simp at hf; omega)
    refine ⟨scs', ?_⟩
    rw [show tr.pos + (tc.pos + pos) = pos + tc.pos + tr.pos by omega, show tc.pos + pos = pos + tc.pos by omega, hih]
    simp

/-- **C09 for arbitrary messages, either mode**: whenever every command and every response of the sequence, decoded on its own
(the response under its command's code and encrypt flag), completes and consumes exactly its bytes — well-formed or not, with or
without warnings — the stream decode of the concatenation is the chain of those decodes: same events in the same order, stamped
with the running offset, then the clean stop at the end -/
theorem stream_is_chain (abort : Bool) (tb : MsgTables) (path : Path) :
    ∀ (msgs : List (List Byte × List Byte)) (pos : Nat) (out : List (Nat × Event)) (scs : List SC) (pos' : Nat) (out' : List (Nat × Event)),
    runMsgs abort tb path msgs pos out = some (pos', out') →
    ∀ fuel, msgs.length < fuel →
    ∃ scs', decodeStream abort tb path fuel ⟨flat msgs, pos, out, scs⟩ =
      .ok (.none, ⟨[], pos', out' ++ [(pos', .marshal ⟨path, .named "Command" false, none, "", 0⟩)], scs'⟩) := by
  intro msgs pos out scs pos' out' h fuel hf
  obtain ⟨scs', hs⟩ := stream_chain_then abort tb path [] msgs pos out scs pos' out' h fuel hf
  obtain ⟨n, hn⟩ : ∃ n, fuel - msgs.length = n + 1 := ⟨fuel - msgs.length - 1, by omega⟩
  rw [List.append_nil, hn] at hs
  exact ⟨scs', by rw [hs]; simp [decodeStream, emitM, emit]⟩

theorem runMsgs_length (abort : Bool) (tb : MsgTables) (path : Path) : ∀ (ms : List (List Byte × List Byte)) p o p' o',
    runMsgs abort tb path ms p o = some (p', o') → ms.length ≤ (flat ms).length := by
  intro ms
  induction ms with
  | nil => intro p o p' o' _; simp
  | cons cr rest ih =>
    intro p o p' o' hh
    obtain ⟨c, r⟩ := cr
    obtain ⟨hc, _, _, _, _, _, _, _, _, _, _, _, hh⟩ := runMsgs_cons hh
    have hc : 0 < c.length := List.length_pos_iff.mpr (List.isEmpty_eq_false_iff.mp hc)
    have := ih _ _ _ _ hh
    simp only [flat, List.map_cons, List.flatten_cons, List.length_append, List.length_cons] at this ⊢
    omega

/-- **the first message whose own decode fails decides the stream (command)**: after messages that chain, a command whose decode on
its own bytes ends in an error other than running out of input makes the stream decode end in that error (moved by the offset), with
the chain's events followed by that command's events — whatever follows it -/
theorem stream_fails_at_command (abort : Bool) (tb : MsgTables) (path : Path) (msgs : List (List Byte × List Byte)) (c y : List Byte)
    (pos' : Nat) (out' : List (Nat × Event)) (h : runMsgs abort tb path msgs 0 [] = some (pos', out'))
    (e : Err) (t : St) (hc : decodeCommand abort tb path (initSt c) = .error (e, t)) (hnd : e ≠ .depleted) (hne : c ≠ []) :
    ∃ t', decodeStream abort tb path ((flat msgs ++ (c ++ y)).length + 1) (initSt (flat msgs ++ (c ++ y))) = .error (shErr pos' e, t') ∧
      t'.out = out' ++ shOut pos' t.out := by
  have hl := runMsgs_length abort tb path msgs 0 [] pos' out' h
  obtain ⟨scs', hs⟩ := stream_chain_then abort tb path (c ++ y) msgs 0 [] [] pos' out' h ((flat msgs ++ (c ++ y)).length + 1) (by
    simp only [List.length_append]; omega)
  obtain ⟨n, hn⟩ : ∃ n, (flat msgs ++ (c ++ y)).length + 1 - msgs.length = n + 1 :=
    ⟨(flat msgs ++ (c ++ y)).length - msgs.length, by simp only [List.length_append] at *; omega⟩
  have hne0 : (c ++ y).isEmpty = false := isEmpty_append_of_ne y (List.isEmpty_eq_false_iff.mpr hne)
  rw [show initSt (flat msgs ++ (c ++ y)) = ⟨flat msgs ++ (c ++ y), 0, [], []⟩ from rfl, hs, hn, decodeStream,
    decodeCommand_at abort tb path c y pos' out' scs' (nd_error hc hnd), hc]
  simp only [hne0, Bool.false_eq_true, if_false]
  exact ⟨_, rfl, rfl⟩

/-- … and the same for a response: its command decodes on its own, the response's own decode (under that command's code and flag)
ends in an error other than running out of input -/
theorem stream_fails_at_response (abort : Bool) (tb : MsgTables) (path : Path) (msgs : List (List Byte × List Byte)) (c r y : List Byte)
    (pos' : Nat) (out' : List (Nat × Event)) (h : runMsgs abort tb path msgs 0 [] = some (pos', out'))
    (cv : Val) (tc : St) (hc : decodeCommand abort tb path (initSt c) = .ok (cv, tc)) (htc : tc.inp = []) (hne : c ≠ [])
    (enc : Bool) (henc : cmdEncrypt tb cv = .ok enc)
    (e : Err) (t : St) (hr : decodeResponse abort tb ((objField cv "commandCode").bind vInt) enc path (initSt r) = .error (e, t))
    (hnd : e ≠ .depleted) (hner : r ≠ []) :
    ∃ t', decodeStream abort tb path ((flat msgs ++ (c ++ (r ++ y))).length + 1) (initSt (flat msgs ++ (c ++ (r ++ y)))) =
        .error (shErr (tc.pos + pos') e, t') ∧
      t'.out = out' ++ shOut pos' tc.out ++ shOut (tc.pos + pos') t.out := by
  have hl := runMsgs_length abort tb path msgs 0 [] pos' out' h
  obtain ⟨scs', hs⟩ := stream_chain_then abort tb path (c ++ (r ++ y)) msgs 0 [] [] pos' out' h ((flat msgs ++ (c ++ (r ++ y))).length + 1) (by
    simp only [List.length_append]; omega)
  obtain ⟨n, hn⟩ : ∃ n, (flat msgs ++ (c ++ (r ++ y))).length + 1 - msgs.length = n + 1 :=
    ⟨(flat msgs ++ (c ++ (r ++ y))).length - msgs.length, by simp only [List.length_append] at *; omega⟩
  have hc0 : c.isEmpty = false := List.isEmpty_eq_false_iff.mpr hne
  have hr0 : (r ++ y).isEmpty = false := isEmpty_append_of_ne y (List.isEmpty_eq_false_iff.mpr hner)
  rw [show initSt (flat msgs ++ (c ++ (r ++ y))) = ⟨flat msgs ++ (c ++ (r ++ y)), 0, [], []⟩ from rfl, hs, hn,
    stream_turn abort tb path n c _ pos' out' scs' hc0 hr0 hc htc henc,
    decodeResponse_at _ _ _ _ _ r y _ _ _ (nd_error hr hnd), hr]
  exact ⟨_, rfl, rfl⟩

/-! ## every stream decode, of ANY input, is the iteration of its messages' own decodes -/

/-- decode the next command ON ITS OWN — from a fresh state on the remaining input — then the response on its own on what that left
(under the command's code and encrypt flag), and so on; positions, region ids and traces are moved to where the message stands.
The message boundaries are taken from the messages themselves: each decode says what it left. -/
def iterMsgs (abort : Bool) (tb : MsgTables) (path : Path) :
    Nat → List Byte → Nat → List (Nat × Event) → Except (Err × Nat × List (Nat × Event)) (Nat × List (Nat × Event))
  | 0, _, pos, out => .error (.crash "ModelError" "stream fuel", pos, out)
  | fuel+1, inp, pos, out =>
    if inp.isEmpty then .ok (pos, out ++ [(pos, .marshal ⟨path, .named "Command" false, none, "", 0⟩)]) else
    match decodeCommand abort tb path (initSt inp) with
    | .error (e, t) => .error (shErr pos e, t.pos + pos, out ++ shOut pos t.out)
    | .ok (cv, tc) =>
      match cmdEncrypt tb cv with
      | .error cls => .error (.crash cls "is_parameter_encryption(command)", tc.pos + pos, out ++ shOut pos tc.out)
      | .ok enc =>
        if tc.inp.isEmpty then
          .ok (tc.pos + pos, out ++ shOut pos tc.out ++ [(tc.pos + pos, .marshal ⟨path, .named "Response" false, none, "", 0⟩)])
        else
          match decodeResponse abort tb ((objField cv "commandCode").bind vInt) enc path (initSt tc.inp) with
          | .error (e, t) => .error (shErr (tc.pos + pos) e, t.pos + (tc.pos + pos), out ++ shOut pos tc.out ++ shOut (tc.pos + pos) t.out)
          | .ok (_, tr) => iterMsgs abort tb path fuel tr.inp (tr.pos + (tc.pos + pos)) (out ++ shOut pos tc.out ++ shOut (tc.pos + pos) tr.out)

/-- what a run shows: outcome, final position, trace -/
def projR (r : R Val) : Except (Err × Nat × List (Nat × Event)) (Nat × List (Nat × Event)) :=
  match r with
  | .ok (_, s) => .ok (s.pos, s.out)
  | .error (e, s) => .error (e, s.pos, s.out)

/-- **the stream decode of EVERY input, in either mode, is the iteration of the messages' own decodes** (no hypothesis on the input:
well-formed or not, complete or cut short, whatever the outcome) -/
theorem stream_is_iteration (abort : Bool) (tb : MsgTables) (path : Path) :
    ∀ (fuel : Nat) (inp : List Byte) (pos : Nat) (out : List (Nat × Event)) (scs : List SC),
      projR (decodeStream abort tb path fuel ⟨inp, pos, out, scs⟩) = iterMsgs abort tb path fuel inp pos out := by
  intro fuel
  induction fuel with
  | zero => intro inp pos out scs; rfl
  | succ n ih =>
    intro inp pos out scs
    rw [decodeStream, iterMsgs]
    by_cases hemp : inp.isEmpty = true
    · simp [hemp, projR, emitM, emit]
    simp only [hemp, Bool.false_eq_true, if_false]
    have hC := decodeCommand_at abort tb path inp [] pos out scs (nd_nil _)
    rw [List.append_nil] at hC
    rw [hC]
    cases decodeCommand abort tb path (initSt inp) with
    | error et => rfl
    | ok vt =>
      obtain ⟨cv, tc⟩ := vt
      simp only [shiftR, R.bind_ok, shiftSt_mk, List.append_nil]
      cases cmdEncrypt tb cv with
      | error cls => rfl
      | ok enc =>
        simp only []
        by_cases hemp2 : tc.inp.isEmpty = true
        · simp [hemp2, projR, emitM, emit]
        simp only [hemp2, Bool.false_eq_true, if_false]
        have hR := decodeResponse_at abort tb ((objField cv "commandCode").bind vInt) enc path tc.inp [] (tc.pos + pos)
          (out ++ shOut pos tc.out) (tc.scs.map (shSC pos)) (nd_nil _)
        rw [List.append_nil] at hR
        rw [hR]
        cases decodeResponse abort tb ((objField cv "commandCode").bind vInt) enc path (initSt tc.inp) with
        | error et => rfl
        | ok vt2 =>
          obtain ⟨rv, tr⟩ := vt2
          simp only [shiftR, R.bind_ok, shiftSt_mk, List.append_nil]
          exact ih _ _ _ _
