import TpmProofs.TruncStream
import TpmProofs.TruncPump
/-!
# Truncated streams through the pump (C05, C10 for `CommandResponseStream`)
-/

theorem runWalker_srb (tb : MsgTables) (hw : tb.wf = true) (x : List Byte) (k : Nat) :
    SRB k (initSt x) (runWalker true tb .stream x) (runWalker true tb .stream (x.take k)) := by
  simp only [runWalker, initSt_take]
  have hlen : (cutSt k (initSt x)).inp.length ≤ x.length := by simp [initSt]; omega
  rw [decodeStream_fuel tb hw rootPath ((x.take k).length + 1) (x.length + 1) (cutSt k (initSt x))
    (by simp [initSt]) (by omega)]
  exact decodeStream_srb tb hw rootPath (x.length + 1) (initSt x) k (by simp [initSt])

theorem traceOf_take_stream (tb : MsgTables) (hw : tb.wf = true) (x : List Byte) (k : Nat) :
    traceOf tb .stream (x.take k) = (traceOf tb .stream x).filter fun ke => ke.1 ≤ k := by
  obtain ⟨new, ho, hp, hst, hd⟩ := runWalker_srb tb hw x k
  have := out_filter_of ho hst (hd.imp id fun ⟨t, h0, _, _, h3⟩ => by rcases h0 with h0 | h0 <;> rw [h0] <;> exact h3)
  simp only [initSt, List.nil_append, Nat.zero_add] at ho this
  rw [traceOf, traceOf, this, ho]

/-- the walker on the first `k` bytes of a stream, when the run on `x` consumes more than `k`: it stops — with `depleted`, or
cleanly — having consumed the `k` bytes and emitted exactly the events the run on `x` emits up to byte count `k` -/
theorem truncated_stream_walker (tb : MsgTables) (hw : tb.wf = true) (x : List Byte) (k : Nat)
    (hk : k < consumed tb .stream x) :
    ∃ t, (runWalker true tb .stream (x.take k) = .error (.depleted, t) ∨
          runWalker true tb .stream (x.take k) = .ok (.none, t)) ∧ t.inp = [] ∧ t.pos = k ∧
      t.out = (traceOf tb .stream x).filter fun ke => ke.1 ≤ k := by
  obtain ⟨new, ho, hp, hst, hd⟩ := runWalker_srb tb hw x k
  rcases hd with ⟨hu, _⟩ | ⟨t, h0, h1, h2, h3⟩
  · simp only [used, initSt, consumed] at hu hk; omega
  · refine ⟨t, h0, h1, by simpa [initSt] using h2, ?_⟩
    rw [← traceOf_take_stream tb hw, traceOf]
    rcases h0 with h0 | h0 <;> rw [h0] <;> rfl

/-! ## what the pump shows of a trace -/

theorem pumpEvents_stream (len : Nat) : ∀ (out acc : List (Nat × Event)) (cc : Option Int),
    (pumpEvents true len out acc cc).1 = acc ++ shown len (beforeStop len out) ∧
    (pumpEvents true len out acc cc).2.2 = out.any (fun ke => ke.1 == len && isRootEllipsis ke.2) := by
  intro out acc cc
  simp only [pumpEvents_eq, Bool.true_and, beforeStop, and_self]

theorem stream_evs (tb : MsgTables) (x : List Byte) :
    (marshalRun true tb .stream x).evs = (beforeStop x.length (traceOf tb .stream x)).map (·.2) := by
  rw [marshalRun_stream]
  simp [Run.evs, traceOf]

theorem prefix_takeWhile {α : Type} {p : α → Bool} {l1 l : List α} (h : l1 <+: l) (hp : ∀ a ∈ l1, p a = true) :
    l1 <+: l.takeWhile p := by
  obtain ⟨t, rfl⟩ := h
  rw [List.takeWhile_append_of_pos hp]
  exact List.prefix_append _ _

/-- **prefix stability for streams** (C10): the events shown for a prefix of a stream are a prefix of the events shown for
the whole stream -/
theorem stream_prefix_stable (tb : MsgTables) (hw : tb.wf = true) (x : List Byte) (k : Nat) :
    (marshalRun true tb .stream (x.take k)).evs <+: (marshalRun true tb .stream x).evs := by
  by_cases hkl : x.length ≤ k
  · rw [List.take_of_length_le hkl]; exact List.prefix_refl _
  · rw [stream_evs, stream_evs, traceOf_take_stream tb hw]
    apply List.IsPrefix.map
    obtain ⟨_, _, _, h4, _⟩ := trace_acct tb .stream x
    -- what the prefix run shows is a prefix of the full trace, and none of its stamps is the full length
    refine prefix_takeWhile ((List.takeWhile_prefix _).trans (stamped_filter_prefix k h4)) fun ke hke => ?_
    have hle : ke.1 ≤ k := by simpa using (List.mem_filter.mp ((List.takeWhile_prefix _).subset hke)).2
    have hne : (ke.1 == x.length) = false := by apply beq_false_of_ne; omega
    simp [hne]

/-- **C05 for streams, any input**: if the strict stream decoder consumes more than `k` bytes of `x`, then on the first `k`
bytes it ends with `InputStreamBytesDepletedError` or — when the cut falls exactly where the next message would start —
silently; either way it has shown exactly the events the run on `x` emits up to byte count `k`, minus the announcement of a
message that starts exactly at the cut -/
theorem stream_truncated (tb : MsgTables) (hw : tb.wf = true) (x : List Byte) (k : Nat)
    (hk : k < consumed tb .stream x) :
    ((marshalRun true tb .stream (x.take k)).outcome = .depleted ∨
     (marshalRun true tb .stream (x.take k)).outcome = .silent) ∧
    (marshalRun true tb .stream (x.take k)).evs =
      (beforeStop k ((traceOf tb .stream x).filter fun ke => ke.1 ≤ k)).map (·.2) := by
  have hlen : (x.take k).length = k := by have := consumed_le tb .stream x; simp; omega
  obtain ⟨t, h0, h1, h2, h3⟩ := truncated_stream_walker tb hw x k hk
  refine ⟨?_, by rw [stream_evs, hlen, traceOf_take_stream tb hw]⟩
  rw [marshalRun_stream]
  rcases h0 with h0 | h0
  · rw [h0]
    simp only [resOf, pumpOutcome]
    split
    · exact Or.inr rfl
    · exact Or.inl rfl
  · -- a clean end of the walker: its last event announces the next message at the end of the input
    right
    obtain ⟨xs, last, bs, evs, _, hi, _, hpos, hout⟩ := decodeStream_sound tb hw rootPath ((x.take k).length + 1)
      (initSt (x.take k)) t .none (by simpa [runWalker] using h0)
    have hbs : bs.length = k := by
      rw [← hlen, show x.take k = (initSt (x.take k)).inp from rfl, hi]
    have : isRootEllipsis (.marshal (streamTail rootPath last)) = true := by
      cases last <;> simp [streamTail, isRootEllipsis]
    rw [h0, hlen]
    simp [stOf, hout, initSt, hbs, this]
