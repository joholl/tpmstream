import TpmProofs.Trace
/-!
# Position and remaining input move together

`PI s r`: in every step of every walker, in either mode, whatever the outcome, `pos + |inp|` stays what it was — the
position counts exactly the input bytes taken.  (Only `take` touches either, and it moves both.)  Used to turn "the position
advanced" into "the input got shorter" (termination of the stream loop in warn mode).
-/

def PI {α : Type} (s : St) (r : R α) : Prop := (stOf r).pos + (stOf r).inp.length = s.pos + s.inp.length

theorem PI.ok {α : Type} (s : St) (a : α) : PI s (.ok (a, s) : R α) := rfl
theorem PI.err {α : Type} (s : St) (e : Err) : PI s (.error (e, s) : R α) := rfl
theorem PI.crash {α : Type} (s : St) (c m : String) : PI s (crash c m s : R α) := rfl

theorem PI.bind {α β : Type} {s : St} {r : R α} {f : α → St → R β} (h : PI s r)
    (hf : ∀ a t, r = .ok (a, t) → PI t (f a t)) : PI s (r.bind f) := by
  cases r with
  | error e => obtain ⟨e, t⟩ := e; exact h
  | ok at' =>
    obtain ⟨a, t⟩ := at'
    have := hf a t rfl
    simp only [PI, stOf, R.bind_ok] at h this ⊢
    omega

/-- the state may be changed in `out` and `scs` at will -/
theorem PI.of_eq {α : Type} {s s' : St} {r : R α} (h : PI s' r) (hp : s'.pos = s.pos) (hi : s'.inp = s.inp) : PI s r := by
  simp only [PI] at h ⊢; rw [h, hp, hi]

theorem take_pi (n : Nat) (s : St) : PI s (take n s) := by
  unfold take
  split
  · simp [PI, stOf]
  · rename_i h
    simp only [PI, stOf, List.length_drop]
    omega

theorem consume_pi (n : Nat) (s : St) : PI s (consume n s) := by
  unfold consume; exact (take_pi n s).bind fun _ t _ => PI.ok _ _

theorem bpGo_pi (path : Path) (size : Nat) (todo done : List SC) (s : St) : PI s (bpGo path size done todo s) := by
  rcases bpGo_cases path size todo done with h | ⟨_, _, _, _, _, h⟩ <;> rw [h]
  · rfl
  · exact PI.of_eq ((consume_pi _ _).bind fun _ t _ => PI.err _ _) rfl rfl

theorem bytesParsed_pi (path : Path) (size : Nat) (s : St) : PI s (bytesParsed path size s) := bpGo_pi path size s.scs [] s

theorem readPrim_pi (abort : Bool) (p : Prim) (path : Path) (s : St) : PI s (readPrim abort p path s) := by
  unfold readPrim
  refine (bytesParsed_pi path p.size s).bind fun _ t _ => (take_pi p.size t).bind fun bs t2 _ => ?_
  simp only []
  split
  · exact PI.of_eq (PI.ok _ _) rfl rfl
  · split
    · exact PI.err _ _
    · exact PI.of_eq (PI.ok _ _) rfl rfl

theorem anticipateM_pi (abort : Bool) (vpath : Path) (v id : Nat) (s : St) : PI s (anticipateM abort vpath v id s) := by
  unfold anticipateM
  split
  · exact PI.ok _ _
  · split
    · exact PI.err _ _
    · exact PI.of_eq (PI.ok _ _) rfl rfl

theorem openRegion_pi (abort : Bool) (id : Nat) (cpath : Path) (n : Nat) (s : St) : PI s (openRegion abort id cpath n s) := by
  unfold openRegion
  exact (anticipateM_pi abort cpath n id s).bind fun _ t _ => PI.of_eq (PI.ok _ _) rfl rfl

theorem setListed_pi (abort : Bool) (id : Nat) (cpath : Path) (n : Nat) (s : St) : PI s (setListed abort id cpath n s) := by
  unfold setListed
  exact PI.of_eq (anticipateM_pi abort cpath n id _) rfl rfl

theorem assertDoneSC_pi (abort : Bool) (c : SC) (s : St) : PI s (assertDoneSC abort c s) := by
  unfold assertDoneSC
  split
  · exact PI.crash _ _ _
  · split
    · exact PI.ok _ _
    · simp only []
      split
      · exact PI.err _ _
      · split
        · exact PI.of_eq ((bytesParsed_pi _ _ _).bind fun _ t _ => consume_pi _ t) rfl rfl
        · exact PI.of_eq (PI.ok _ _) rfl rfl

theorem PI.caught {abort : Bool} {s : St} {r q : R Val} {k : Val → St → R Val} (hr : PI s r)
    (hk : ∀ v t, r = .ok (v, t) → PI t (k v t)) (hq : Caught abort r k q) : PI s q := by
  cases hq with
  | ok h => subst h; exact hr.bind (f := k) hk
  | pass h => subst h; exact hr
  | warn _ _ h => subst h; exact hr

theorem pi_stepInv (abort : Bool) : StepInv abort @PI where
  pure a s := PI.ok s a
  crash cls site s := PI.crash s cls site
  reject e s _ := PI.err s e
  bind := PI.bind
  emit _ _ h := PI.of_eq h rfl rfl
  scs _ h := PI.of_eq h rfl rfl
  caught hr hk hq := hr.caught hk hq
  readPrim p _ := readPrim_pi abort p
  openRegion := openRegion_pi abort
  setListed := setListed_pi abort
  assertDoneSC := assertDoneSC_pi abort

theorem decode_pi (abort : Bool) (t : Ty) (path : Path) (sel : Option Int) (s : St) : PI s (decode abort t path sel s) :=
  (pi_stepInv abort).decode t t.pk_true path sel s

theorem arm_pi (abort : Bool) : (arms : Arms) → ∀ (un want : String) (path : Path) (s : St), PI s (decodeArm abort arms un want path s) :=
  fun arms => (pi_stepInv abort).arm arms arms.pk_true

theorem decodeCommand_pi (abort : Bool) (tb : MsgTables) (path : Path) (s0 : St) : PI s0 (decodeCommand abort tb path s0) :=
  (pi_stepInv abort).command tb tb.pk_true path s0

theorem decodeResponse_pi (abort : Bool) (tb : MsgTables) (cc : Option Int) (enc : Bool) (path : Path) (s0 : St) :
    PI s0 (decodeResponse abort tb cc enc path s0) :=
  (pi_stepInv abort).response tb tb.pk_true cc enc path s0

theorem PI.shorter {α : Type} {s t : St} {a : α} (h : PI s (.ok (a, t) : R α)) (hp : s.pos < t.pos) :
    t.inp.length < s.inp.length := by
  simp only [PI, stOf] at h; omega
