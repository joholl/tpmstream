import TpmProofs.E2OSpec
import TpmProofs.MsgOk
/-!
# `events_to_obj` on the events of a well-formed command / response

The message classes are dataclasses whose `Any` fields are resolved with the command code (`cmdTy` / `rspTy`); an encrypted
parameter area is recognised by the keys of its first entry and rebuilt as the `.encrypted()` variant of the declared class.
-/

/-! ## the entries of a message, one after the other -/

/-- one field of a message: its events, the subtree they build at the field's key, and the value that subtree is read as -/
structure Seg where
  name : String
  T : Tree
  evs : List SEv
  ft : FT
  v : Val

def Seg.ok (enc : Ty) (pre : Path) (s : Seg) : Prop :=
  Under pre s.evs ∧ BuildsAt ⟨s.name, none⟩ s.T (sstrip pre.length s.evs) ∧ toObj enc s.ft s.T = some s.v

theorem segs_build (enc : Ty) (pre : Path) : ∀ (l : List Seg), (∀ s ∈ l, s.ok enc pre) → (l.map (·.name)).Nodup →
    BuildsEntries (l.map (·.name)) (l.map fun s => (s.name, s.T)) (l.flatMap fun s => sstrip pre.length s.evs)
  | [], _, _ => BuildsEntries.nil
  | s :: rest, hok, hnd => by
    simp only [List.map_cons, List.nodup_cons] at hnd
    exact BuildsEntries.cons (hok s (List.mem_cons_self ..)).2.1 hnd.1
      (segs_build enc pre rest (fun x hx => hok x (List.mem_cons_of_mem _ hx)) hnd.2)

theorem segs_toObj (enc : Ty) (pre : Path) (tt : Ty) : ∀ (l : List Seg), (∀ s ∈ l, s.ok enc pre) →
    (l.map fun s => tt.attr s.name) = (l.map fun s => some s.ft) →
    toObjKvs enc tt (l.map fun s => (s.name, s.T)) = some (l.map fun s => (s.name, s.v))
  | [], _, _ => by simp [toObjKvs]
  | s :: rest, hok, hattr => by
    simp only [List.map_cons, List.cons.injEq] at hattr
    simp only [List.map_cons, toObjKvs, hattr.1, (hok s (List.mem_cons_self ..)).2.2,
      segs_toObj enc pre tt rest (fun x hx => hok x (List.mem_cons_of_mem _ hx)) hattr.2]

variable (enc : Ty)

def primSeg (p : Prim) (name : String) (x : Int) (evs : List SEv) : Seg :=
  ⟨name, .leaf p.name x, evs, .one (.prim p), .int p.name x⟩

theorem prim_seg {p : Prim} {pre : Path} {name : String} {v : Val} {bs : List Byte} {evs : List SEv}
    (h : specPrim p (pre ++ [⟨name, none⟩]) v = some (bs, evs)) :
    ∃ x, v = .int p.name x ∧ (primSeg p name x evs).ok enc pre := by
  obtain ⟨x, rfl, hB⟩ := prim_leaf h
  exact ⟨x, rfl, (specPrim_under h).mono (prefix_snoc _ _), hB, toObj_leaf enc _ _ _⟩

theorem spec_seg {t : Ty} (ht : t.eo (encBuf enc) = true) {pre : Path} {name : String} {v : Val} {bs : List Byte}
    {evs : List SEv} (h : spec t (pre ++ [⟨name, none⟩]) none v = some (bs, evs)) :
    ∃ T, Seg.ok enc pre ⟨name, T, evs, .one t, v⟩ := by
  obtain ⟨T, hB, hTo, _⟩ := spec_builds enc t ht pre _ none v bs evs h
  exact ⟨T, (spec_under _ _ _ _ _ _ h).mono (prefix_snoc _ _), hB, hTo⟩

/-- the session area -/
theorem sessions_seg {t : Ty} (ht : t.eo (encBuf enc) = true) {pre : Path} {name : String} {v : Val} {bs : List Byte}
    {evs : List SEv} (h : specSessions t (pre ++ [⟨name, none⟩]) v = some (bs, evs)) :
    ∃ T, Seg.ok enc pre ⟨name, T, evs, .many t, v⟩ := by
  obtain ⟨vs, e, rfl, hr, rfl⟩ := specSessions_inv h
  obtain ⟨T, hB, hTo, _⟩ := list_builds enc (sessSpec t) t pre name t.name (fun i v bs evs h =>
    (spec_builds enc t ht pre _ none v bs evs (sessSpec_inv h).1).imp fun T hT => ⟨hT.1, hT.2.1⟩) hr
  exact ⟨T, list_under (fun p v bs evs h => spec_under _ _ _ _ _ _ (sessSpec_inv h).1) hr, hB, hTo⟩

/-- `_dict_to_obj` on an encrypted area: the `.encrypted()` variant of the declared class -/
theorem toObj_encDict (t : Ty) (kvs : List (String × Tree)) (name : String) (fs : Fields) (fvs : List (String × Val))
    (hne : kvs ≠ []) (hE : isEncDict enc kvs = true) (hvar : encVariant enc t = some (name, fs))
    (h : toObjKvs enc (.struct name true fs) kvs = some fvs) :
    toObj enc (.one t) (.dict kvs) = some (.obj name true fvs) := by
  have he : kvs.isEmpty = false := by cases kvs <;> simp_all
  simp [toObj, he, hE, hvar, h]

/-- side condition on a parameter class for its `.encrypted()` variant -/
def Ty.encOk (t : Ty) (encParam : Ty) : Bool :=
  match encVariant encParam t with
  | some (_, .cons f _ _ rest) => rest.eo (encBuf encParam) && decide ((f :: rest.names).Nodup)
  | _ => true

/-- a handle / parameter area, in the clear or with an opaque first parameter -/
theorem area_builds (tb : MsgTables) {en sz buf : String} {sp el : Prim} (henc : tb.encParam = .tpm2bBytes en sz sp buf el)
    (hne : sz ≠ buf) (e : Bool) (t : Ty) (ht : t.eo (encBuf tb.encParam) = true) (hok : t.encOk tb.encParam = true)
    {pre : Path} {nd : PathNode} {v : Val} {bs : List Byte} {evs : List SEv}
    (h : specArea tb e t (pre ++ [nd]) v = some (bs, evs)) :
    ∃ T, BuildsAt nd T (sstrip pre.length evs) ∧ toObj tb.encParam (.one t) T = some v := by
  rcases specArea_inv h with h | ⟨name, fs, fvs, ev, hvar, rfl, hr, rfl⟩
  · exact (spec_builds tb.encParam t ht pre nd none v _ _ h).imp fun T hT => ⟨hT.1, hT.2.1⟩
  · obtain ⟨isP, f0, k0, t0, rest0, rfl, rfl⟩ := encVariant_inv hvar
    simp only [Ty.encOk, hvar, Bool.and_eq_true, decide_eq_true_eq, List.nodup_cons] at hok
    have hunder := specFields_under _ _ _ _ _ _ hr
    -- the first field is the opaque parameter, whose keys mark the area as encrypted; then the remaining fields
    obtain ⟨v0, fvs', b0, e0, bs', es', rfl, hf0, hrest, _, rfl⟩ := specFields_cons_inv hr
    simp only [specFieldWith] at hf0
    rw [henc] at hf0
    obtain ⟨Ts, Tb, hB0, hT0⟩ := tpm2bBytes_builds tb.encParam hne (pre := pre ++ [nd]) hf0
    rw [← henc] at hT0
    obtain ⟨entries', hnames', _, hbuild', hobj'⟩ :=
      fields_builds tb.encParam rest0.dropSelectors hok.1 hok.2.2 (pre ++ [nd]) _ fvs' bs' es' hrest
    refine ⟨.dict ((f0, .dict [(sz, Ts), (buf, Tb)]) :: entries'), node_builds hunder ?_, ?_⟩
    · rw [sstrip_append, sstrip_shift]
      exact (BuildsEntries.cons hB0 hok.2.1 hbuild').empty
    · apply toObj_encDict tb.encParam _ _ name _ _ (by simp) (by rw [henc]; simp [isEncDict]) hvar
      have hA : AttrOk (Ty.struct name true (.cons f0 .plain tb.encParam rest0.dropSelectors)).attr
          rest0.dropSelectors :=
        attrOk_congr _ _ _ (fun n _ => by simp [Ty.attr])
          (attrOk_self (.cons f0 .plain tb.encParam rest0.dropSelectors) (by simp [Fields.names, hok.2.1, hok.2.2])).2
      simp [toObjKvs, Ty.attr, Fields.attr, hT0, hobj' _ hA]

theorem specArea_under {tb : MsgTables} {e : Bool} {t : Ty} {path : Path} {v : Val} {bs : List Byte} {evs : List SEv}
    (h : specArea tb e t path v = some (bs, evs)) : Under path evs := by
  rcases specArea_inv h with h | ⟨_, _, _, ev, _, _, hr, rfl⟩
  · exact spec_under _ _ _ _ _ _ h
  · exact Under.cons (List.prefix_refl _) (specFields_under _ _ _ _ _ _ hr)

/-! ## side conditions on the message tables -/

def MsgTables.eo (tb : MsgTables) : Bool :=
  (match tb.encParam with
   | .tpm2bBytes _ sz _ buf _ => decide (sz ≠ buf)
   | _ => false) &&
  tb.authCmd.eo (encBuf tb.encParam) && tb.authRsp.eo (encBuf tb.encParam) &&
  (tb.cmdHandles ++ tb.cmdParams ++ tb.rspHandles ++ tb.rspParams).all fun kt =>
    kt.2.eo (encBuf tb.encParam) && kt.2.encOk tb.encParam

theorem lookupTy_mem {m : List (Int × Ty)} {k : Int} {t : Ty} (h : lookupTy m k = some t) : ∃ k', (k', t) ∈ m := by
  unfold lookupTy at h
  simp only [Option.map_eq_some_iff] at h
  obtain ⟨⟨k', t'⟩, hf, rfl⟩ := h
  exact ⟨k', List.mem_of_find?_eq_some hf⟩

theorem MsgTables.eo_enc {tb : MsgTables} (h : tb.eo = true) :
    ∃ en sz sp buf el, tb.encParam = .tpm2bBytes en sz sp buf el ∧ sz ≠ buf := by
  unfold MsgTables.eo at h
  simp only [Bool.and_eq_true] at h
  have h1 := h.1.1.1
  split at h1
  · rename_i en sz sp buf el heq
    exact ⟨en, sz, sp, buf, el, heq, by simpa using h1⟩
  · cases h1

theorem MsgTables.eo_area {tb : MsgTables} (h : tb.eo = true) {k : Int} {t : Ty}
    (hl : lookupTy tb.cmdHandles k = some t ∨ lookupTy tb.cmdParams k = some t ∨ lookupTy tb.rspHandles k = some t ∨
      lookupTy tb.rspParams k = some t) : t.eo (encBuf tb.encParam) = true ∧ t.encOk tb.encParam = true := by
  unfold MsgTables.eo at h
  simp only [Bool.and_eq_true, List.all_eq_true, List.mem_append] at h
  have hall := h.2
  rcases hl with hl | hl | hl | hl <;> obtain ⟨k', hm⟩ := lookupTy_mem hl
  · exact hall (k', t) (Or.inl (Or.inl (Or.inl hm)))
  · exact hall (k', t) (Or.inl (Or.inl (Or.inr hm)))
  · exact hall (k', t) (Or.inl (Or.inr hm))
  · exact hall (k', t) (Or.inr hm)

theorem area_seg {tb : MsgTables} (hok : tb.eo = true) {k : Int} {t : Ty}
    (hl : lookupTy tb.cmdHandles k = some t ∨ lookupTy tb.cmdParams k = some t ∨ lookupTy tb.rspHandles k = some t ∨
      lookupTy tb.rspParams k = some t) (e : Bool) {pre : Path} {name : String} {v : Val} {bs : List Byte} {evs : List SEv}
    (h : specArea tb e t (pre ++ [⟨name, none⟩]) v = some (bs, evs)) :
    ∃ T, Seg.ok tb.encParam pre ⟨name, T, evs, .one t, v⟩ := by
  obtain ⟨en, sz, sp, buf, el, henc, hne⟩ := MsgTables.eo_enc hok
  obtain ⟨T, hB, hTo⟩ := area_builds tb henc hne e t (MsgTables.eo_area hok hl).1 (MsgTables.eo_area hok hl).2 h
  exact ⟨T, (specArea_under h).mono (prefix_snoc _ _), hB, hTo⟩

theorem sstrip_eq_map (k : Nat) (evs : List SEv) : sstrip k evs = (evs.map (·.2)).map (stripE k) := by
  simp [sstrip]

theorem sstrip_zero (evs : List SEv) : sstrip 0 evs = evs.map (·.2) := by
  simp [sstrip, stripE]

/-- a message: the root event, then the entries one after the other -/
theorem msg_assemble (mname : String) (l : List Seg) (rest : List SEv) (tt : Ty)
    (hok : ∀ s ∈ l, s.ok enc rootPath) (hnd : (l.map (·.name)).Nodup)
    (hflat : rest.map (·.2) = l.flatMap fun s => s.evs.map (·.2)) (hattr : (l.map fun s => tt.attr s.name) = (l.map fun s => some s.ft))
    (hfirst : ∃ s0 tl c x, l = s0 :: tl ∧ s0.T = .leaf c x) :
    buildTree (((0, ⟨rootPath, .named mname false, none, "", 0⟩) :: rest).map (·.2)) (.dict []) =
        some (.dict [("", .dict (l.map fun s => (s.name, s.T)))]) ∧
      toObj enc (.one tt) (.dict (l.map fun s => (s.name, s.T))) = some (.obj tt.name false (l.map fun s => (s.name, s.v))) := by
  constructor
  · have hunder : Under rootPath rest := by
      intro e he
      have : e.2 ∈ rest.map (·.2) := List.mem_map_of_mem he
      rw [hflat, List.mem_flatMap] at this
      obtain ⟨s, hs, hm⟩ := this
      obtain ⟨e', he', heq⟩ := List.mem_map.mp hm
      rw [← heq]
      exact (hok s hs).1 e' he'
    have hB : BuildsAt ⟨"", none⟩ (.dict (l.map fun s => (s.name, s.T)))
        (sstrip 0 ((0, ⟨[] ++ [⟨"", none⟩], .named mname false, none, "", 0⟩) :: rest)) := by
      refine node_builds (pre := []) hunder ?_
      rw [sstrip_eq_map, hflat, List.map_flatMap]
      simpa [sstrip_eq_map, rootPath] using (segs_build enc rootPath l hok hnd).empty
    have := hB.1 rfl [] (kvLookup_nil _)
    rw [sstrip_zero] at this
    simpa [rootPath] using this
  · obtain ⟨s0, tl, c, x, rfl, hT⟩ := hfirst
    apply toObj_dict enc tt _ _ (by simp)
    · simp only [List.map_cons, hT]
      exact isEncDict_false enc _ _ _ (topAvoid_leaf _ _ _)
    · exact segs_toObj enc rootPath tt _ hok hattr

theorem e2oTop_command (tb : MsgTables) (evs : List MEvent) (kvs : List (String × Tree)) (c : String) (cc : Int) (v : Val)
    (hbuild : buildTree evs (.dict []) = some (.dict [("", .dict kvs)])) (hne : kvs.isEmpty = false)
    (hcc : kvLookup kvs "commandCode" = some (.leaf c cc))
    (hobj : toObj tb.encParam (.one (cmdTy tb cc)) (.dict kvs) = some v) : e2oTop tb .command evs = some v := by
  simp only [e2oTop, hbuild, kvLookup_cons, beq_self_eq_true, if_true, hne, Bool.false_eq_true, if_false, hcc, hobj]

theorem e2oTop_response (tb : MsgTables) (cc : Option Int) (e : Bool) (evs : List MEvent) (kvs : List (String × Tree)) (v : Val)
    (hbuild : buildTree evs (.dict []) = some (.dict [("", .dict kvs)])) (hne : kvs.isEmpty = false)
    (hobj : toObj tb.encParam (.one (rspTy tb cc)) (.dict kvs) = some v) : e2oTop tb (.response cc e) evs = some v := by
  simp only [e2oTop, hbuild, kvLookup_cons, beq_self_eq_true, if_true, hne, Bool.false_eq_true, if_false, hobj]

/-- **events → object for commands**: `events_to_obj` of the events of a well-formed command is the command -/
theorem cmd_events_to_obj (tb : MsgTables) (hok : tb.eo = true) (p : CmdParts) (bs : List Byte) (evs : List SEv)
    (h : specCommand tb rootPath p = some (bs, evs)) : e2oTop tb .command (evs.map (·.2)) = some p.toVal := by
  have hparts := hok
  simp only [MsgTables.eo, Bool.and_eq_true] at hparts
  apply specCommand_cases h
  intro b1 e1 b2 e2 b3 e3 hty pty b4 e4 b5 e5 encf b6 e6 h1 h2 h3 hlh hlp h4 h5 h6 _
  obtain ⟨x1, hv1, s1⟩ := prim_seg tb.encParam h1
  obtain ⟨x2, hv2, s2⟩ := prim_seg tb.encParam h2
  obtain ⟨x3, hv3, s3⟩ := prim_seg tb.encParam h3
  simp only [hv3, show vInt (.int tb.cc.name x3) = some x3 from rfl, Option.getD_some] at hlh hlp
  obtain ⟨T4, s4⟩ := spec_seg tb.encParam (MsgTables.eo_area hok (Or.inl hlh)).1 h4
  obtain ⟨T6, s6⟩ := area_seg hok (Or.inr (Or.inl hlp)) encf h6
  rcases specCmdAuth_some h5 with ⟨_, hauth, rfl, rfl, _⟩ | ⟨asz, area, ba, ea, bss, es, _, hauth, ha, hs, _, _, rfl, rfl⟩
  · have hasm := msg_assemble tb.encParam "Command"
      [primSeg tb.tagCmd "tag" x1 e1, primSeg tb.cmdSize "commandSize" x2 e2, primSeg tb.cc "commandCode" x3 e3,
        ⟨"handles", T4, e4, .one hty, p.hv⟩, ⟨"parameters", T6, e6, .one pty, p.pv⟩]
      (e1 ++ shift b1.length (e2 ++ shift b2.length (e3 ++ shift b3.length (e4 ++ shift b4.length
        ([] ++ shift ([] : List Byte).length e6))))) (cmdTy tb x3)
      (by simp [s1, s2, s3, s4, s6]) (by simp [primSeg]) (by simp [primSeg, map_snd_shift])
      (by
        simp only [List.map_cons, List.map_nil, primSeg]
        simp [cmdTy, Ty.attr, Fields.attr, anyField, hlh, hlp]) ⟨_, _, _, _, rfl, rfl⟩
    apply e2oTop_command tb _ _ tb.cc.name x3 _ hasm.1 (by simp) (by simp [primSeg, kvLookup_cons])
    rw [hasm.2]
    simp [CmdParts.toVal, hauth, primSeg, hv1, hv2, hv3, cmdTy, Ty.name]
  · obtain ⟨xa, hva, sa⟩ := prim_seg tb.encParam ha
    obtain ⟨TS, sS⟩ := sessions_seg tb.encParam hparts.1.1.2 hs
    have hasm := msg_assemble tb.encParam "Command"
      [primSeg tb.tagCmd "tag" x1 e1, primSeg tb.cmdSize "commandSize" x2 e2, primSeg tb.cc "commandCode" x3 e3,
        ⟨"handles", T4, e4, .one hty, p.hv⟩, primSeg tb.authSize "authSize" xa ea,
        ⟨"authorizationArea", TS, es, .many tb.authCmd, area⟩, ⟨"parameters", T6, e6, .one pty, p.pv⟩]
      (e1 ++ shift b1.length (e2 ++ shift b2.length (e3 ++ shift b3.length (e4 ++ shift b4.length
        ((ea ++ shift ba.length es) ++ shift (ba ++ bss).length e6)))))
      (cmdTy tb x3) (by simp [s1, s2, s3, s4, sa, sS, s6]) (by simp [primSeg])
      (by simp [primSeg, map_snd_shift])
      (by
        simp only [List.map_cons, List.map_nil, primSeg]
        simp [cmdTy, Ty.attr, Fields.attr, anyField, hlh, hlp]) ⟨_, _, _, _, rfl, rfl⟩
    apply e2oTop_command tb _ _ tb.cc.name x3 _ hasm.1 (by simp) (by simp [primSeg, kvLookup_cons])
    rw [hasm.2]
    simp [CmdParts.toVal, hauth, primSeg, hv1, hv2, hv3, hva, cmdTy, Ty.name]

/-- **events → object for responses**: `events_to_obj(events, command_code)` of the events of a well-formed response is the
response -/
theorem rsp_events_to_obj (tb : MsgTables) (hok : tb.eo = true) (cc : Option Int) (encf : Bool) (p : RspParts)
    (bs : List Byte) (evs : List SEv) (h : specResponse tb cc encf rootPath p = some (bs, evs)) :
    e2oTop tb (.response cc encf) (evs.map (·.2)) = some p.toVal := by
  have hparts := hok
  simp only [MsgTables.eo, Bool.and_eq_true] at hparts
  apply specResponse_cases h
  intro b1 e1 b2 e2 b3 e3 br er h1 h2 h3 hrest _
  obtain ⟨x1, hv1, s1⟩ := prim_seg tb.encParam h1
  obtain ⟨x2, hv2, s2⟩ := prim_seg tb.encParam h2
  obtain ⟨x3, hv3, s3⟩ := prim_seg tb.encParam h3
  rcases hrest with ⟨_, hbody, rfl, rfl⟩ | ⟨body, hty, pty, _, hbody, hlh, hlp, hrest⟩
  · -- failed response: header only
    have hasm := msg_assemble tb.encParam "Response"
      [primSeg tb.tagRsp "tag" x1 e1, primSeg tb.rspSize "responseSize" x2 e2, primSeg tb.rc "responseCode" x3 e3]
      (e1 ++ shift b1.length (e2 ++ shift b2.length (e3 ++ shift b3.length []))) (rspTy tb cc)
      (by simp [s1, s2, s3]) (by simp [primSeg]) (by simp [primSeg, map_snd_shift])
      (by
        simp only [List.map_cons, List.map_nil, primSeg]
        simp [rspTy, Ty.attr, Fields.attr]) ⟨_, _, _, _, rfl, rfl⟩
    apply e2oTop_response tb cc encf _ _ _ hasm.1 (by simp)
    rw [hasm.2]
    simp [RspParts.toVal, hbody, primSeg, hv1, hv2, hv3, rspTy, Ty.name]
  · -- successful response
    obtain ⟨c, rfl⟩ : ∃ c, cc = some c := by
      cases cc with
      | none => simp at hlh
      | some c => exact ⟨c, rfl⟩
    simp only [Option.bind_some] at hlh hlp
    obtain ⟨b4, e4, b6, e6, h4, h6, hrest⟩ := specRspBody_some hrest
    obtain ⟨T4, s4⟩ := area_seg hok (Or.inr (Or.inr (Or.inl hlh))) encf h4
    obtain ⟨T6, s6⟩ := area_seg hok (Or.inr (Or.inr (Or.inr hlp))) encf h6
    rcases hrest with ⟨_, hpsz, harea, _, rfl⟩ | ⟨psz, area, bp, ep, bss, es, _, hpsz, harea, hp, hs, _, _, _, rfl⟩
    · have hasm := msg_assemble tb.encParam "Response"
        [primSeg tb.tagRsp "tag" x1 e1, primSeg tb.rspSize "responseSize" x2 e2,
          primSeg tb.rc "responseCode" x3 e3, ⟨"handles", T4, e4, .one hty, body.hv⟩,
          ⟨"parameters", T6, e6, .one pty, body.pv⟩]
        (e1 ++ shift b1.length (e2 ++ shift b2.length (e3 ++ shift b3.length (e4 ++ shift b4.length e6))))
        (rspTy tb (some c))
        (by simp [s1, s2, s3, s4, s6]) (by simp [primSeg]) (by simp [primSeg, map_snd_shift])
        (by
          simp only [List.map_cons, List.map_nil, primSeg]
          simp [rspTy, Ty.attr, Fields.attr, anyField, hlh, hlp]) ⟨_, _, _, _, rfl, rfl⟩
      apply e2oTop_response tb (some c) encf _ _ _ hasm.1 (by simp)
      rw [hasm.2]
      simp [RspParts.toVal, hbody, hpsz, harea, primSeg, hv1, hv2, hv3, rspTy, Ty.name]
    · obtain ⟨xp, hvp, sp⟩ := prim_seg tb.encParam hp
      obtain ⟨TS, sS⟩ := sessions_seg tb.encParam hparts.1.2 hs
      have hasm := msg_assemble tb.encParam "Response"
        [primSeg tb.tagRsp "tag" x1 e1, primSeg tb.rspSize "responseSize" x2 e2,
          primSeg tb.rc "responseCode" x3 e3, ⟨"handles", T4, e4, .one hty, body.hv⟩,
          primSeg tb.paramSize "parameterSize" xp ep, ⟨"parameters", T6, e6, .one pty, body.pv⟩,
          ⟨"authorizationArea", TS, es, .many tb.authRsp, area⟩]
        (e1 ++ shift b1.length (e2 ++ shift b2.length (e3 ++ shift b3.length
          (e4 ++ shift b4.length (ep ++ shift bp.length (e6 ++ shift b6.length es))))))
        (rspTy tb (some c))
        (by simp [s1, s2, s3, s4, sp, s6, sS]) (by simp [primSeg]) (by simp [primSeg, map_snd_shift])
        (by
          simp only [List.map_cons, List.map_nil, primSeg]
          simp [rspTy, Ty.attr, Fields.attr, anyField, hlh, hlp]) ⟨_, _, _, _, rfl, rfl⟩
      apply e2oTop_response tb (some c) encf _ _ _ hasm.1 (by simp)
      rw [hasm.2]
      simp [RspParts.toVal, hbody, hpsz, harea, primSeg, hv1, hv2, hv3, hvp, rspTy, Ty.name]
