import TpmModel.E2O
import TpmProofs.SpecUnder
/-!
# `_events_to_dict`: how a run of events that all lie under one node builds that node's subtree

* `ins_new_key` / `ins_new_idx`: the first event that touches a node creates it (dict entry appended / list extended by one).
* `descend_key` / `descend_idx`: events whose paths all start with an existing node only change that node's subtree, and do
  there what the events with the first path node stripped do to the subtree on its own.
* `BuildsAt nd T evs`: started in a dict where `nd` is new, `evs` leave that dict with the one extra entry / element `T`.
-/

/-! ## association lists -/

theorem kvLookup_nil (k : String) : kvLookup [] k = none := rfl

theorem kvLookup_cons (k' : String) (v' : Tree) (rest : List (String × Tree)) (k : String) :
    kvLookup ((k', v') :: rest) k = if k' == k then some v' else kvLookup rest k := by
  unfold kvLookup
  simp only [List.find?_cons]
  cases h : (k' == k) <;> simp

theorem kvLookup_append_fresh (kvs : List (String × Tree)) (k : String) (v : Tree) (k2 : String)
    (h : kvLookup kvs k2 = none) : kvLookup (kvs ++ [(k, v)]) k2 = if k == k2 then some v else none := by
  induction kvs with
  | nil => simp [kvLookup_cons, kvLookup_nil]
  | cons hd tl ih =>
    obtain ⟨k', v'⟩ := hd
    rw [kvLookup_cons] at h
    rw [List.cons_append, kvLookup_cons]
    cases hk : (k' == k2)
    · rw [hk] at h; simp only [Bool.false_eq_true, if_false] at h ⊢; exact ih h
    · rw [hk] at h; simp at h

theorem kvLookup_append_self (kvs : List (String × Tree)) (k : String) (v : Tree)
    (h : kvLookup kvs k = none) : kvLookup (kvs ++ [(k, v)]) k = some v := by
  rw [kvLookup_append_fresh kvs k v k h]; simp

theorem kvLookup_append_other (kvs : List (String × Tree)) (k : String) (v : Tree) (k2 : String)
    (h : kvLookup kvs k2 = none) (hne : k ≠ k2) : kvLookup (kvs ++ [(k, v)]) k2 = none := by
  rw [kvLookup_append_fresh kvs k v k2 h]; simp [hne]

theorem kvSet_fresh (kvs : List (String × Tree)) (k : String) (v : Tree) (h : kvLookup kvs k = none) :
    kvSet kvs k v = kvs ++ [(k, v)] := by
  induction kvs with
  | nil => rfl
  | cons hd tl ih =>
    obtain ⟨k', v'⟩ := hd
    rw [kvLookup_cons] at h
    cases hk : (k' == k)
    · rw [hk] at h; simp only [Bool.false_eq_true, if_false] at h
      simp only [kvSet, hk, Bool.false_eq_true, if_false, List.cons_append, ih h]
    · rw [hk] at h; simp at h

theorem kvLookup_kvSet_self (kvs : List (String × Tree)) (k : String) (v : Tree) :
    kvLookup (kvSet kvs k v) k = some v := by
  induction kvs with
  | nil => simp [kvSet, kvLookup_cons]
  | cons hd tl ih =>
    obtain ⟨k', v'⟩ := hd
    cases hk : (k' == k)
    · simp only [kvSet, hk, Bool.false_eq_true, if_false, kvLookup_cons, ih]
    · simp only [kvSet, hk, if_true, kvLookup_cons]

theorem kvSet_kvSet (kvs : List (String × Tree)) (k : String) (v w : Tree) :
    kvSet (kvSet kvs k v) k w = kvSet kvs k w := by
  induction kvs with
  | nil => simp [kvSet]
  | cons hd tl ih =>
    obtain ⟨k', v'⟩ := hd
    cases hk : (k' == k)
    · simp only [kvSet, hk, Bool.false_eq_true, if_false, ih]
    · simp only [kvSet, hk, if_true]

theorem kvSet_append_fresh (kvs : List (String × Tree)) (k : String) (v w : Tree) (h : kvLookup kvs k = none) :
    kvSet (kvs ++ [(k, v)]) k w = kvs ++ [(k, w)] := by
  rw [← kvSet_fresh kvs k v h, kvSet_kvSet, kvSet_fresh kvs k w h]

/-! ## one event -/

theorem ins_nil (t d : Tree) : ins t [] d = some t := by
  cases t <;> rfl

theorem ins_new_key (kvs : List (String × Tree)) (nd : PathNode) (d : Tree) (hidx : nd.idx = none)
    (hf : kvLookup kvs nd.name = none) : ins (.dict kvs) [nd] d = some (.dict (kvs ++ [(nd.name, d)])) := by
  simp only [ins, hidx, hf, List.isEmpty_nil, if_true, Option.map_some, kvSet_fresh kvs nd.name d hf]

theorem ins_new_idx (kvs : List (String × Tree)) (nd : PathNode) (d : Tree) (i : Nat) (es : List (Option Tree))
    (hidx : nd.idx = some i) (hl : kvLookup kvs nd.name = some (.list es)) (hlen : es.length = i) :
    ins (.dict kvs) [nd] d = some (.dict (kvSet kvs nd.name (.list (es ++ [some d])))) := by
  have hpad : padTo es i = es ++ [none] := by
    unfold padTo
    rw [if_pos (by omega)]
    have : i + 1 - es.length = 1 := by omega
    rw [this]; rfl
  have hget : (es ++ [none])[i]? = some (none : Option Tree) := by
    rw [← hlen]; simp
  have hset : (es ++ [none]).set i (some d) = es ++ [some d] := by
    rw [← hlen]; simp
  simp only [ins, hidx, hl, Option.getD_some, hpad, hget, List.isEmpty_nil, if_true, Option.getD_none,
    Option.map_some, hset]

/-! ## stripping the first path nodes -/

def stripE (k : Nat) (e : MEvent) : MEvent := { e with path := e.path.drop k }

def strip (k : Nat) (evs : List MEvent) : List MEvent := evs.map (stripE k)

/-- the events of a spec run, with the first `k` path nodes removed -/
def sstrip (k : Nat) (evs : List SEv) : List MEvent := evs.map fun e => stripE k e.2

theorem leafOf_stripE (k : Nat) (e : MEvent) : leafOf (stripE k e) = leafOf e := rfl

theorem sstrip_nil (k : Nat) : sstrip k [] = [] := rfl

theorem sstrip_cons (k : Nat) (e : SEv) (evs : List SEv) : sstrip k (e :: evs) = stripE k e.2 :: sstrip k evs := rfl

theorem sstrip_append (k : Nat) (a b : List SEv) : sstrip k (a ++ b) = sstrip k a ++ sstrip k b := by
  simp [sstrip]

theorem sstrip_shift (k n : Nat) (a : List SEv) : sstrip k (shift n a) = sstrip k a := by
  simp [sstrip, shift]

theorem strip_sstrip (j k : Nat) (a : List SEv) : strip j (sstrip k a) = sstrip (k + j) a := by
  simp only [strip, sstrip, List.map_map]
  apply List.map_congr_left
  intro e _
  simp [stripE, List.drop_drop]

/-- every event's path starts with node `nd` -/
def Heads (nd : PathNode) (evs : List MEvent) : Prop := ∀ e ∈ evs, ∃ q, e.path = nd :: q

theorem under_heads {pre : Path} {nd : PathNode} {evs : List SEv} (h : Under (pre ++ [nd]) evs) :
    Heads nd (sstrip pre.length evs) := by
  intro e he
  simp only [sstrip, List.mem_map] at he
  obtain ⟨x, hx, rfl⟩ := he
  obtain ⟨q, hq⟩ := h x hx
  refine ⟨q, ?_⟩
  simp [stripE, ← hq]

/-! ## runs of events -/

theorem buildTree_append (a b : List MEvent) (r : Tree) :
    buildTree (a ++ b) r = (buildTree a r).bind (buildTree b) := by
  induction a generalizing r with
  | nil => simp [buildTree]
  | cons e rest ih =>
    simp only [List.cons_append, buildTree]
    cases ins r e.path (leafOf e) with
    | none => simp
    | some r1 => simp [ih]

theorem kvSet_same (kvs : List (String × Tree)) (k : String) (c : Tree) (h : kvLookup kvs k = some c) :
    kvSet kvs k c = kvs := by
  induction kvs with
  | nil => simp [kvLookup_nil] at h
  | cons hd tl ih =>
    obtain ⟨k', v'⟩ := hd
    rw [kvLookup_cons] at h
    cases hk : (k' == k)
    · rw [hk] at h; simp only [Bool.false_eq_true, if_false] at h
      simp only [kvSet, hk, Bool.false_eq_true, if_false, ih h]
    · rw [hk] at h; simp only [if_true, Option.some.injEq] at h
      simp only [kvSet, hk, if_true, h]

theorem ins_key_cons (kvs : List (String × Tree)) (nd : PathNode) (q : Path) (d child : Tree) (hidx : nd.idx = none)
    (hl : kvLookup kvs nd.name = some child) :
    ins (.dict kvs) (nd :: q) d = (ins child q d).map fun c => .dict (kvSet kvs nd.name c) := by
  simp only [ins, hidx, hl]

/-- events that all start with `nd`, from a tree in which `nd` leads to `c` and a walk through `nd` changes nothing but
what is there (`wrap c`): they do to `c` what the events with `nd` stripped do to `c` on its own -/
theorem descend (nd : PathNode) (wrap : Tree → Tree)
    (hw : ∀ c q d, ins (wrap c) (nd :: q) d = (ins c q d).map wrap) :
    ∀ (evs : List MEvent) (c : Tree), Heads nd evs → buildTree evs (wrap c) = (buildTree (strip 1 evs) c).map wrap
  | [], c, _ => rfl
  | e :: rest, c, hh => by
    obtain ⟨q, hq⟩ := hh e (List.mem_cons_self ..)
    have hsp : (stripE 1 e).path = q := by simp [stripE, hq]
    simp only [buildTree, strip, List.map_cons, hq, hw, hsp, leafOf_stripE]
    cases ins c q (leafOf e) with
    | none => rfl
    | some c' => exact descend nd wrap hw rest c' fun x hx => hh x (List.mem_cons_of_mem _ hx)

theorem descend_key (nd : PathNode) (hidx : nd.idx = none) :
    ∀ (evs : List MEvent) (kvs : List (String × Tree)) (child : Tree), Heads nd evs →
      kvLookup kvs nd.name = some child →
      buildTree evs (.dict kvs) = (buildTree (strip 1 evs) child).map fun c => .dict (kvSet kvs nd.name c) := by
  intro evs kvs child hh hl
  have := descend nd (fun c => .dict (kvSet kvs nd.name c)) (fun c q d => by
    rw [ins_key_cons _ nd q d c hidx (kvLookup_kvSet_self kvs nd.name c)]
    simp only [kvSet_kvSet]) evs child hh
  rwa [kvSet_same kvs nd.name child hl] at this

theorem ins_idx_cons (kvs : List (String × Tree)) (nd : PathNode) (q : Path) (d cur : Tree) (i : Nat)
    (es : List (Option Tree)) (hidx : nd.idx = some i) (hl : kvLookup kvs nd.name = some (.list es))
    (hcur : es[i]? = some (some cur)) :
    ins (.dict kvs) (nd :: q) d =
      (ins cur q d).map fun c => .dict (kvSet kvs nd.name (.list (es.set i (some c)))) := by
  have hlt : i < es.length := (List.getElem?_eq_some_iff.mp hcur).1
  have hpad : padTo es i = es := by
    unfold padTo
    rw [if_pos (by omega)]
    have : i + 1 - es.length = 0 := by omega
    rw [this]; simp
  simp only [ins, hidx, hl, Option.getD_some, hpad, hcur]

theorem descend_idx (nd : PathNode) (i : Nat) (hidx : nd.idx = some i) :
    ∀ (evs : List MEvent) (kvs : List (String × Tree)) (es : List (Option Tree)) (cur : Tree), Heads nd evs →
      kvLookup kvs nd.name = some (.list es) → es[i]? = some (some cur) →
      buildTree evs (.dict kvs) =
        (buildTree (strip 1 evs) cur).map fun c => .dict (kvSet kvs nd.name (.list (es.set i (some c)))) := by
  intro evs kvs es cur hh hl hcur
  obtain ⟨hlt, hget⟩ := List.getElem?_eq_some_iff.mp hcur
  have := descend nd (fun c => .dict (kvSet kvs nd.name (.list (es.set i (some c))))) (fun c q d => by
    rw [ins_idx_cons _ nd q d c i _ hidx (kvLookup_kvSet_self kvs nd.name _) (by simp [hlt])]
    simp only [kvSet_kvSet, List.set_set]) evs cur hh
  rwa [← hget, List.set_getElem_self hlt, kvSet_same kvs nd.name _ hl] at this

/-! ## a node and everything below it -/

/-- started in a dict where node `nd` is new (no such key / the list at that key ends right before that index), the events
leave the dict with exactly one more entry / element: `T` -/
def BuildsAt (nd : PathNode) (T : Tree) (evs : List MEvent) : Prop :=
  (nd.idx = none → ∀ kvs, kvLookup kvs nd.name = none →
      buildTree evs (.dict kvs) = some (.dict (kvs ++ [(nd.name, T)]))) ∧
  (∀ i, nd.idx = some i → ∀ kvs es, kvLookup kvs nd.name = some (.list es) → es.length = i →
      buildTree evs (.dict kvs) = some (.dict (kvSet kvs nd.name (.list (es ++ [some T])))))

/-- the first event creates the node as `T0`, the others (all below the node) turn `T0` into `T` -/
theorem buildsAt_node (nd : PathNode) (e : MEvent) (rest : List MEvent) (T : Tree) (hp : e.path = [nd])
    (hh : Heads nd rest) (hb : buildTree (strip 1 rest) (leafOf e) = some T) : BuildsAt nd T (e :: rest) := by
  constructor
  · intro hidx kvs hf
    simp only [buildTree, hp, ins_new_key kvs nd _ hidx hf, Option.bind_some]
    rw [descend_key nd hidx rest _ (leafOf e) hh (kvLookup_append_self kvs nd.name _ hf), hb]
    simp only [Option.map_some, kvSet_append_fresh kvs nd.name _ _ hf]
  · intro i hidx kvs es hl hlen
    simp only [buildTree, hp, ins_new_idx kvs nd _ i es hidx hl hlen, Option.bind_some]
    rw [descend_idx nd i hidx rest _ (es ++ [some (leafOf e)]) (leafOf e) hh (kvLookup_kvSet_self kvs nd.name _)
      (by rw [← hlen]; simp), hb]
    simp only [Option.map_some, kvSet_kvSet]
    rw [← hlen]; simp

/-- a single leaf event -/
theorem buildsAt_leaf (nd : PathNode) (e : MEvent) (hp : e.path = [nd]) : BuildsAt nd (leafOf e) [e] :=
  buildsAt_node nd e [] (leafOf e) hp (by intro x hx; cases hx) (by simp [strip, buildTree])

/-! ## entries one after the other -/

/-- started in a dict that has none of `names`, the events leave it with `entries` appended -/
def BuildsEntries (names : List String) (entries : List (String × Tree)) (evs : List MEvent) : Prop :=
  ∀ kvs, (∀ n ∈ names, kvLookup kvs n = none) → buildTree evs (.dict kvs) = some (.dict (kvs ++ entries))

theorem BuildsEntries.nil : BuildsEntries [] [] [] := fun kvs _ => by simp [buildTree]

theorem BuildsEntries.cons {name : String} {T : Tree} {a b : List MEvent} {names : List String}
    {entries : List (String × Tree)} (ha : BuildsAt ⟨name, none⟩ T a) (hn : name ∉ names)
    (hb : BuildsEntries names entries b) : BuildsEntries (name :: names) ((name, T) :: entries) (a ++ b) := by
  intro kvs hfresh
  rw [buildTree_append, ha.1 rfl kvs (hfresh name (List.mem_cons_self ..)), Option.bind_some,
    hb (kvs ++ [(name, T)]) fun n hn' => kvLookup_append_other kvs name T n (hfresh n (List.mem_cons_of_mem _ hn'))
      (by rintro rfl; exact hn hn')]
  simp

theorem BuildsEntries.empty {names : List String} {entries : List (String × Tree)} {evs : List MEvent}
    (h : BuildsEntries names entries evs) : buildTree evs (.dict []) = some (.dict entries) := by
  simpa using h [] fun _ _ => kvLookup_nil _
