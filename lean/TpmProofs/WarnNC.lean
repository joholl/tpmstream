import TpmProofs.Warn
import TpmProofs.MsgNoCrash
import TpmProofs.PosInp
/-!
# Warn mode never fails with an internal error (C08: "decoding never aborts on malformed data")

`Warn.lean` shows that no *size* error escapes a warn-mode decode; it allows internal errors (the model's `crash`) as
outcomes.  Here they are excluded: under the same static side conditions on the tables as for strict mode (`Ty.total`,
kernel-decided over the regenerated tables) the warn-mode walker, on ANY input, in any context with fresh region ids,
never ends in a `crash` — no `AssertionError`, `TypeError`, `KeyError`, `IndexError`, `RuntimeError`, `NameError`, and
the session loop never runs out of steps (its bound is the room left in its region, so it is part of the statement
that every completed session is charged to that region).

Strict mode gets the state after a successful step from soundness (`decode_sound`: exactly the dictated bytes were
consumed and charged).  Warn mode accepts non-conforming input, so the post-state has to be characterised directly:

`WC s r` — *charging*: the position never moves back, `r` is not a crash, and
* a successful step leaves exactly the regions it found, each charged exactly the bytes consumed
  (`t.scs = bump s.scs (t.pos - s.pos)`) — also across reported overruns (the skipped tail of the region is charged to the
  enclosing regions), reported shortfalls (the padding is charged) and out-of-range values;
* a step that stops with `exceeded` for region `c` leaves exactly the regions outside `c`, each charged exactly the bytes
  consumed on the way.

`WA k s r` adds progress (a success moved the position by at least `k`).  Message level: `CM` / `RM` — what holds of the result
of the command / response walker (no internal error — for a response: none but the known assertion — and progress); the walkers
are stepped through their programs with `Msg` and `Step` of Warn.lean.
-/

def WC {α : Type} (s : St) (r : R α) : Prop :=
  s.pos ≤ (stOf r).pos ∧ NC r ∧
  match r with
  | .ok (_, t) => t.scs = bump s.scs (t.pos - s.pos)
  | .error (e, t) => ∀ cid cp m a v b, e = .exceeded cid cp m a v b →
      ∃ pre c post, s.scs = pre ++ c :: post ∧ c.id = cid ∧ t.scs = bump pre (t.pos - s.pos)

theorem WC.ok {α : Type} (s : St) (a : α) : WC s (.ok (a, s) : R α) :=
  ⟨Nat.le_refl _, NC.ok _ _, by simp⟩

theorem WC.of_emit {α : Type} {s : St} (e : Event) {r : R α} (h : WC (emit e s) r) : WC s r := h

theorem WC.after {α : Type} {s t : St} {r : R α} (hp : s.pos ≤ t.pos) (hs : t.scs = bump s.scs (t.pos - s.pos)) (h : WC t r) :
    WC s r := by
  obtain ⟨gp, gn, gs⟩ := h
  refine ⟨Nat.le_trans hp gp, gn, ?_⟩
  cases r with
  | ok bt =>
    obtain ⟨b, t2⟩ := bt
    simp only [stOf] at gs gp ⊢
    rw [gs, hs, bump_bump]
    congr 1; omega
  | error et =>
    obtain ⟨e, t2⟩ := et
    simp only [stOf] at gs gp ⊢
    intro cid cp m a' v b he
    obtain ⟨pre, c, post, hdec, hcid, hscs⟩ := gs cid cp m a' v b he
    rw [hs] at hdec
    obtain ⟨pre0, r, hl, rfl, hr⟩ := List.map_eq_append_iff.mp hdec
    obtain ⟨c0, post0, rfl, rfl, _⟩ := List.map_eq_cons_iff.mp hr
    refine ⟨pre0, c0, post0, hl, hcid, hscs.trans ((bump_bump pre0 _ _).trans ?_)⟩
    congr 1; omega

theorem WC.bind {α β : Type} {s : St} {r : R α} {f : α → St → R β} (h : WC s r)
    (hf : ∀ a t, r = .ok (a, t) → WC t (f a t)) : WC s (r.bind f) := by
  cases r with
  | error e => exact ⟨h.1, h.2.1.bind (fun _ _ hh => nomatch hh), h.2.2⟩
  | ok at' => obtain ⟨a, t⟩ := at'; exact WC.after h.1 h.2.2 (hf a t rfl)

theorem WC.fresh {α : Type} {s t : St} {a : α} (h : WC s (.ok (a, t) : R α)) (hf : Fresh s.scs s.pos) : Fresh t.scs t.pos :=
  WI.fresh (s := s) (a := a) ⟨h.1, (congrArg sig h.2.2).trans (sig_bump _ _)⟩ hf

theorem WC.error_free {α : Type} {s t : St} {e : Err} (hp : s.pos ≤ t.pos) (hc : ∀ c m, e ≠ .crash c m)
    (he : ∀ cid cp m a v b, e ≠ .exceeded cid cp m a v b) : WC s (.error (e, t) : R α) :=
  ⟨hp, NC.error_ne hc, fun _ _ _ _ _ _ h => absurd h (he _ _ _ _ _ _)⟩

/-- the charging loop: with `done` = regions already charged `size`, an overrun of `c` leaves the regions before `c`
charged exactly the skipped rest of `c` -/
theorem bpGo_wc (path : Path) (size : Nat) : ∀ (todo d0 : List SC) (s : St) cid cp m a v b t,
    bpGo path size (bump d0 size) todo s = .error (.exceeded cid cp m a v b, t) →
    ∃ pre c post, todo = pre ++ c :: post ∧ c.id = cid ∧ s.pos ≤ t.pos ∧ t.scs = bump (d0 ++ pre) (t.pos - s.pos) := by
  intro todo d0 s cid cp m a v b t h
  rcases bpGo_cases path size todo (bump d0 size) with h' | ⟨pre, c, post, rfl, hov, h'⟩
  · rw [h'] at h; cases h
  · rw [h', consume_eq] at h
    split at h
    · cases h
    · simp only [R.bind_ok, Except.error.injEq, Prod.mk.injEq, Err.exceeded.injEq] at h
      obtain ⟨⟨hid, _⟩, rfl⟩ := h
      have hle : c.max.getD 0 - c.already ≤ size := by
        simp only [SC.over] at hov
        cases hm : c.max with
        | none => simp [hm] at hov
        | some mm => simp only [hm, decide_eq_true_eq] at hov; simp only [Option.getD_some]; omega
      refine ⟨pre, c, post, rfl, hid, Nat.le_add_right _ _, ?_⟩
      simp only [Nat.add_sub_cancel_left, bump, ← List.map_append, List.map_map]
      apply List.map_congr_left
      intro d _
      simp only [Function.comp, SC.bump]
      congr 1
      omega

theorem charged_wc {α : Type} (path : Path) (n : Nat) (s : St) {g : List Byte → St → R α} (hg : ∀ bs t, WC t (g bs t)) :
    WC s ((bytesParsed path n s).bind fun _ t => (take n t).bind g) := by
  cases hb : bytesParsed path n s with
  | error et =>
    obtain ⟨e, t⟩ := et
    have hp := (bytesParsed_wi path n s).1
    rw [hb] at hp
    rw [R.bind_error]
    refine ⟨hp, NC.error_ne fun cl m he => bpGo_nc path n s.scs [] s cl m t (he ▸ hb), fun cid cp m a v b he => ?_⟩
    subst he
    obtain ⟨pre, c, post, h1, h2, _, h4⟩ := bpGo_wc path n s.scs [] s _ _ _ _ _ _ _ hb
    exact ⟨pre, c, post, h1, h2, h4⟩
  | ok ut =>
    obtain ⟨_, s1⟩ := ut
    rw [bytesParsed_ok_inv hb, R.bind_ok]
    unfold take
    split
    · exact WC.error_free (Nat.le_add_right _ _) (fun _ _ h => nomatch h) fun _ _ _ _ _ _ h => nomatch h
    · exact WC.after (Nat.le_add_right _ _) (by simp) (hg _ _)

theorem readPrim_wc (p : Prim) (path : Path) (s : St) : WC s (readPrim false p path s) := by
  unfold readPrim
  refine charged_wc path p.size s fun bs t => ?_
  simp only [Bool.false_eq_true, if_false]
  split
  · exact WC.ok (emitM _ t) _
  · exact WC.ok (emitW _ (emitM _ t)) _

/-- a successful read in warn mode yields the integer -/
theorem readPrim_warn_val {p : Prim} {path : Path} {s t : St} {v : Val} (h : readPrim false p path s = .ok (v, t)) :
    ∃ x, v = .int p.name x ∧ (p.signed = false → 0 ≤ x) := by
  unfold readPrim at h
  obtain ⟨_, s1, _, h⟩ := bind_ok_inv h
  obtain ⟨bs, s2, _, h⟩ := bind_ok_inv h
  simp only [Bool.false_eq_true, if_false] at h
  split at h <;>
  · simp only [Except.ok.injEq, Prod.mk.injEq] at h
    exact ⟨_, h.1.symm, fun hu => by simp only [Prim.ofBytes, hu]; exact intOfBytes_nonneg _ _⟩

theorem anticipateM_warn (vpath : Path) (v id : Nat) (s : St) :
    ∃ t, anticipateM false vpath v id s = .ok ((), t) ∧ t.scs = s.scs ∧ t.pos = s.pos := by
  unfold anticipateM
  split
  · exact ⟨_, rfl, rfl, rfl⟩
  · simp only [Bool.false_eq_true, if_false]; exact ⟨_, rfl, rfl, rfl⟩

theorem assertDoneSC_wc (c : SC) (s : St) (m : Nat) (hm : c.max = some m) : WC s (assertDoneSC false c s) := by
  unfold assertDoneSC
  simp only [hm, Bool.false_eq_true, if_false]
  split
  · exact WC.ok _ _
  · apply WC.of_emit
    split
    · exact charged_wc _ _ _ fun _ t => WC.ok t _
    · exact WC.ok _ _

/-! ## regions and their owners -/

/-- the `except` of the owner of region `x`, the last one opened, around a step `r` made inside `x` -/
theorem WC.own {s : St} {pre : List SC} {x : SC} {r : R Val} {k : Val → St → R Val} (hr : WC s r) (hs : s.scs = pre ++ [x])
    (hx : ∀ d ∈ pre, d.id ≠ x.id)
    (hk : ∀ v t, r = .ok (v, t) → s.pos ≤ t.pos → t.scs = bump pre (t.pos - s.pos) ++ [x.bump (t.pos - s.pos)] →
      WC { t with scs := bump pre (t.pos - s.pos) } (k v t)) :
    WC { s with scs := pre } (ownCatch false x.id r k) := by
  obtain ⟨hp, hn, hm⟩ := hr
  cases r with
  | ok vt =>
    obtain ⟨v, t⟩ := vt
    simp only [stOf] at hp hm
    rw [hs, bump_append] at hm
    exact WC.after (t := { t with scs := bump pre (t.pos - s.pos) }) hp rfl (hk v t rfl hp hm)
  | error et =>
    obtain ⟨e, t⟩ := et
    simp only [stOf] at hp hm
    have hreg : ∀ cid cp m a v b, e = .exceeded cid cp m a v b → (cid = x.id ∧ t.scs = bump pre (t.pos - s.pos)) ∨
        (cid ≠ x.id ∧ ∃ p c post, pre = p ++ c :: post ∧ c.id = cid ∧ t.scs = bump p (t.pos - s.pos)) :=
      fun cid cp m a v b he => snoc_region hx (hs ▸ hm cid cp m a v b he)
    by_cases hown : ∃ cp m a v b, e = .exceeded x.id cp m a v b
    · obtain ⟨cp, m, a, v, b, rfl⟩ := hown
      simp only [ownCatch, Bool.false_or, bne_self_eq_false, Bool.false_eq_true, if_false]
      rcases hreg _ _ _ _ _ _ rfl with ⟨_, h⟩ | ⟨hne, _⟩
      · exact ⟨hp, NC.ok _ _, h⟩
      · exact absurd rfl hne
    · rw [ownCatch_pass fun cp m a v b t' h => hown ⟨cp, m, a, v, b, by cases h; rfl⟩]
      refine ⟨hp, hn, fun cid cp m a v b he => ?_⟩
      rcases hreg cid cp m a v b he with ⟨rfl, _⟩ | ⟨_, h⟩
      · exact absurd ⟨cp, m, a, v, b, he⟩ hown
      · exact h

/-- the frame of a region's owner: body inside the region, then `assert_done`, with the owner's `except` around the body -/
theorem owner_wc {s1 s2 : St} {id : Nat} {cpath : Path} {n : Nat} (hs2 : s2.scs = s1.scs ++ [⟨id, cpath, 0, some n⟩])
    (hpos : s2.pos = s1.pos) (hfresh : ∀ d ∈ s1.scs, d.id ≠ id) {r : R Val} (hr : WC s2 r) (g : Val → Val) :
    WC s1 (ownCatch false id r fun bv s => (assertDone false id s).bind fun _ s => .ok (g bv, s)) := by
  have h := hr.own hs2 hfresh (k := fun bv s => (assertDone false id s).bind fun _ s => .ok (g bv, s)) fun bv t _ _ hl => by
    rw [assertDone_last (id := id) hl rfl (bump_ids hfresh)]
    exact (assertDoneSC_wc _ _ n rfl).bind fun _ t' _ => WC.ok _ _
  exact ⟨hpos ▸ h.1, h.2.1, hpos ▸ h.2.2⟩

theorem repeatDec_wc (f : Path → St → R Val) (hf : ∀ p s, Fresh s.scs s.pos → WC s (f p s)) (path : Path) :
    ∀ (n i : Nat) (s : St), Fresh s.scs s.pos → WC s (repeatDec f path n i s) := by
  intro n
  induction n with
  | zero => intro i s _; exact WC.ok _ _
  | succ m ih =>
    intro i s hfr
    unfold repeatDec
    refine (hf _ s hfr).bind fun v t ht => ?_
    exact (ih (i+1) t (WC.fresh (ht ▸ hf _ s hfr) hfr)).bind fun vs t2 _ => WC.ok _ _

theorem readPrimList_wc (p : Prim) (path : Path) (n : Nat) (s : St) (hfr : Fresh s.scs s.pos) :
    WC s (readPrimList false p path n s) := by
  unfold readPrimList
  apply WC.of_emit
  exact (repeatDec_wc _ (fun q s _ => readPrim_wc p q s) path n 0 _ (by simpa [emitM, emit] using hfr)).bind fun vs t _ => WC.ok _ _

theorem sizeField_nonneg {szP : Prim} {path : Path} {s s1 : St} {nv : Val} (hu : szP.signed = false)
    (h1 : readPrim false szP path s = .ok (nv, s1)) : ¬ ((nv.asInt?.getD 0) < 0) := by
  obtain ⟨x, rfl, hx⟩ := readPrim_warn_val h1
  have := hx hu
  simp only [Val.asInt?, Option.getD_some]; omega

/-! ### progress: a successful step consumes at least the leading integers of the layout -/

def Adv {α : Type} (k : Nat) (s : St) (r : R α) : Prop := ∀ a t, r = .ok (a, t) → s.pos + k ≤ t.pos

def WA {α : Type} (k : Nat) (s : St) (r : R α) : Prop := WC s r ∧ Adv k s r

theorem WA.of_wc {α : Type} {s : St} {r : R α} (h : WC s r) : WA 0 s r :=
  ⟨h, fun a t hr => by subst hr; exact h.1⟩

theorem WA.ok {α : Type} (s : St) (a : α) : WA 0 s (.ok (a, s) : R α) := WA.of_wc (WC.ok s a)

theorem WA.of_emit {α : Type} {k : Nat} {s : St} (e : Event) {r : R α} (h : WA k (emit e s) r) : WA k s r := h

theorem WA.mono {α : Type} {k k' : Nat} {s : St} {r : R α} (h : WA k s r) (hk : k' ≤ k) : WA k' s r :=
  ⟨h.1, fun a t hr => by have := h.2 a t hr; omega⟩

theorem WA.bind {α β : Type} {k1 k2 : Nat} {s : St} {r : R α} {f : α → St → R β} (h : WA k1 s r)
    (hf : ∀ a t, r = .ok (a, t) → WA k2 t (f a t)) : WA (k1 + k2) s (r.bind f) := by
  refine ⟨h.1.bind fun a t hr => (hf a t hr).1, ?_⟩
  intro b t2 hb
  obtain ⟨a, t, hr, hft⟩ := bind_ok_inv hb
  have h1 := h.2 a t hr
  have h2 := (hf a t hr).2 b t2 hft
  omega

mutual
def Ty.minLen : Ty → Nat
  | .prim p => p.size
  | .struct _ _ fs => fs.minLen
  | .tpm2bBytes _ _ szP _ _ => szP.size
  | .tpm2b _ _ szP _ _ => szP.size
  | .union _ _ => 0
  | .bad _ => 0
def Fields.minLen : Fields → Nat
  | .nil => 0
  | .cons _ .plain t rest => t.minLen + rest.minLen
  | .cons _ _ _ rest => rest.minLen
end

theorem nonEmpty_minLen {t : Ty} (h : t.nonEmpty = true) : 0 < t.minLen := by
  have leaf : ∀ {u : Ty}, u.nonEmptyLeaf = true → 0 < u.minLen := by
    intro u hu
    cases u <;> simp [Ty.nonEmptyLeaf] at hu <;> simpa [Ty.minLen] using hu
  unfold Ty.nonEmpty at h
  split at h
  · have := leaf h
    simp only [Ty.minLen, Fields.minLen]; omega
  · exact leaf h

theorem readPrim_wa (p : Prim) (path : Path) (s : St) : WA p.size s (readPrim false p path s) :=
  ⟨readPrim_wc p path s, fun _ t h => by rw [(readPrim_warn_ok h).1]; exact Nat.le_refl _⟩

theorem decode_isPrim {t : Ty} {path : Path} {sel : Option Int} {s s1 : St} {v : Val} (h : decode false t path sel s = .ok (v, s1))
    (hp : t.isPrim = true) : ∃ c x, v = .int c x := by
  cases t with
  | prim p =>
    simp only [decode] at h
    obtain ⟨x, rfl, _⟩ := readPrim_warn_val h
    exact ⟨_, x, rfl⟩
  | _ => simp [Ty.isPrim] at hp

mutual
theorem decode_wa : (t : Ty) → t.wf = true → t.total = true → ∀ (path : Path) (sel : Option Int) (s : St),
    (sel = none → t.okNoSel = true) → Fresh s.scs s.pos → WA t.minLen s (decode false t path sel s)
  | .prim p, _, _, path, sel, s, _, _ => by simp only [decode, Ty.minLen]; exact readPrim_wa p path s
  | .struct name isP fs, hwf, htot, path, sel, s, _, hfr => by
    simp only [decode, Ty.minLen]
    apply WA.of_emit
    exact (fields_wa fs (by simpa [Ty.wf] using hwf) none [] (by simpa [Ty.total] using htot) path [] _ VOK.nil
      (by simpa [emitM, emit] using hfr)).bind fun vals t _ => WA.ok _ _
  | .tpm2bBytes name szName szP bufName elem, hwf, htot, path, sel, s, _, hfr => by
    simp only [Ty.wf, Bool.and_eq_true, decide_eq_true_eq] at hwf
    obtain ⟨⟨⟨_, hszpos⟩, _⟩, hel1⟩ := hwf
    simp only [Ty.total, Bool.not_eq_true'] at htot
    simp only [decode, Ty.minLen]
    apply WA.of_emit
    refine (readPrim_wa szP _ _).bind (k2 := 0) fun nv s1 h1 => WA.of_wc ?_
    obtain ⟨hne, s2, h2, hs2, hp2, hfr2⟩ := sizeField_region hszpos (s := emitM ⟨path, .named name false, none, "", 0⟩ s) hfr h1
      (path ++ [⟨szName, none⟩]) (nv.asInt?.getD 0).toNat
    rw [if_neg (sizeField_nonneg htot h1), h2, R.bind_ok]
    have := owner_wc hs2 hp2 hne (readPrimList_wc elem (path ++ [⟨bufName, none⟩]) (nv.asInt?.getD 0).toNat s2 hfr2)
      (fun bv => .obj name false [(szName, nv), (bufName, bv)])
    rwa [ownCatch_pass (readPrimList_no_own hel1 hs2 hne)] at this
  | .tpm2b name szName szP bufName body, hwf, htot, path, sel, s, _, hfr => by
    simp only [Ty.wf, Bool.and_eq_true, decide_eq_true_eq] at hwf
    obtain ⟨⟨_, hszpos⟩, hwb⟩ := hwf
    simp only [Ty.total, Bool.and_eq_true, Bool.not_eq_true'] at htot
    obtain ⟨⟨hus, htb⟩, hokb⟩ := htot
    simp only [decode, Ty.minLen]
    apply WA.of_emit
    refine (readPrim_wa szP _ _).bind (k2 := 0) fun nv s1 h1 => WA.of_wc ?_
    obtain ⟨hne, s2, h2, hs2, hp2, hfr2⟩ := sizeField_region hszpos (s := emitM ⟨path, .named name false, none, "", 0⟩ s) hfr h1
      (path ++ [⟨szName, none⟩]) (nv.asInt?.getD 0).toNat
    rw [if_neg (sizeField_nonneg hus h1), h2, R.bind_ok]
    split
    · have := owner_wc (r := .ok (.none, emitM ⟨path ++ [⟨bufName, none⟩], body.eventTag, none, "", 0⟩ s2))
        hs2 hp2 hne (WC.ok (emitM _ s2) _) (fun _ => .obj name false [(szName, nv), (bufName, .none)])
      simpa [ownCatch] using this
    · exact owner_wc hs2 hp2 hne (decode_wa body hwb htb _ none s2 (fun _ => hokb) hfr2).1
        (fun bv => .obj name false [(szName, nv), (bufName, bv)])
  | .union name arms, hwf, htot, path, sel, s, hsel, hfr => by
    simp only [decode, Ty.minLen]
    apply WA.of_emit
    apply WA.of_wc
    cases han : selectArm arms.keys sel with
    | none =>
      simp only []
      cases sel with
      | some sv => exact WC.error_free (Nat.le_refl _) (by intro c m h; cases h) (by intro cid cp m a v b h; cases h)
      | none =>
        have := hsel rfl
        simp [Ty.okNoSel, han] at this
    | some an =>
      simp only []
      exact arm_wc arms (by simpa [Ty.wf] using hwf) (by simpa [Ty.total] using htot) name an path _
        (selectArm_mem han) (by simpa [emitM, emit] using hfr)
  | .bad r, _, htot, path, sel, s, _, _ => by simp [Ty.total] at htot

theorem arm_wc : (arms : Arms) → arms.wf = true → arms.total = true → ∀ (un want : String) (path : Path) (s : St),
    want ∈ arms.keys.map (·.1) → Fresh s.scs s.pos → WC s (decodeArm false arms un want path s)
  | .nil, _, _, un, want, path, s, hmem, _ => by simp [Arms.keys] at hmem
  | .consNone an key rest, hwf, htot, un, want, path, s, hmem, hfr => by
    simp only [decodeArm]
    split
    · exact WC.ok _ _
    · rename_i hne
      exact arm_wc rest (by simpa [Arms.wf] using hwf) (by simpa [Arms.total] using htot) un want path s
        (by simpa [Arms.keys, Ne.symm hne] using hmem) hfr
  | .cons an key t rest, hwf, htot, un, want, path, s, hmem, hfr => by
    simp only [Arms.wf, Bool.and_eq_true] at hwf
    simp only [Arms.total, Bool.and_eq_true] at htot
    simp only [decodeArm]
    split
    · exact (decode_wa t hwf.1 htot.1.1 _ none s (fun _ => htot.1.2) hfr).1.bind fun v t' _ => WC.ok _ _
    · rename_i hne
      exact arm_wc rest hwf.2 htot.2 un want path s (by simpa [Arms.keys, Ne.symm hne] using hmem) hfr
  | .consBytes an key elem n rest, hwf, htot, un, want, path, s, hmem, hfr => by
    simp only [Arms.wf, Bool.and_eq_true] at hwf
    simp only [Arms.total, Bool.and_eq_true] at htot
    simp only [decodeArm]
    split
    · cases n with
      | none => simp at htot
      | some k =>
        simp only [readListArm]
        exact (readPrimList_wc elem _ k s hfr).bind fun v t' _ => WC.ok _ _
    · rename_i hne
      exact arm_wc rest hwf.2 htot.2 un want path s (by simpa [Arms.keys, Ne.symm hne] using hmem) hfr

theorem fields_wa : (fs : Fields) → fs.wf = true → ∀ (l : Option Bool) (seen : List (String × Bool)), fs.total l seen = true →
    ∀ (path : Path) (vals : List (String × Val)) (s : St), VOK vals l seen → Fresh s.scs s.pos →
    WA fs.minLen s (decodeFields false fs path vals s)
  | .nil, _, l, seen, _, path, vals, s, _, _ => by simp only [decodeFields, Fields.minLen]; exact WA.ok _ _
  | .cons fname kind t rest, hwf, l, seen, htot, path, vals, s, hv, hfr => by
    simp only [Fields.wf, Bool.and_eq_true] at hwf
    simp only [Fields.total, Bool.and_eq_true] at htot
    obtain ⟨⟨htt, hkind⟩, hrest⟩ := htot
    simp only [decodeFields]
    cases kind with
    | plain =>
      simp only [] at hkind hrest
      simp only [decodeFieldWith, Fields.minLen]
      have hstep := decode_wa t hwf.1 htt (path ++ [⟨fname, none⟩]) none s (fun _ => hkind) hfr
      refine hstep.bind fun v s1 h1 => ?_
      exact fields_wa rest hwf.2 _ _ hrest path _ s1 (hv.snoc fname (decode_isPrim h1)) (WC.fresh (h1 ▸ hstep.1) hfr)
    | selected sel =>
      simp only [] at hkind hrest
      obtain ⟨x, hx⟩ := hv.sel (by simpa using hkind)
      simp only [decodeFieldWith, hx, Fields.minLen]
      have hstep := decode_wa t hwf.1 htt (path ++ [⟨fname, none⟩]) (some x) s (by intro h; cases h) hfr
      refine (WA.bind (k1 := 0) (k2 := rest.minLen) (hstep.mono (Nat.zero_le _)) fun v s1 h1 => ?_).mono (by omega)
      exact fields_wa rest hwf.2 _ _ hrest path _ s1 (hv.snoc_other fname v) (WC.fresh (h1 ▸ hstep.1) hfr)
    | counted =>
      simp only [Bool.and_eq_true, beq_iff_eq] at hkind hrest
      obtain ⟨hok, hl⟩ := hkind
      subst hl
      obtain ⟨c, hc⟩ := hv.count
      simp only [decodeFieldWith, hc, Fields.minLen]
      have hstep : WC s ((repeatDec (fun p s => decode false t p none s) (path ++ [⟨fname, none⟩]) c 0
          (emitM ⟨path ++ [⟨fname, none⟩], .listOf t.name, none, "", 0⟩ s)).bind fun vs s => (.ok (.list vs, s) : R Val)) := by
        apply WC.of_emit
        exact (repeatDec_wc _ (fun p s hf => (decode_wa t hwf.1 htt p none s (fun _ => hok) hf).1) _ c 0 _
          (by simpa [emitM, emit] using hfr)).bind fun vs t' _ => WC.ok _ _
      refine (WA.bind (k1 := 0) (k2 := rest.minLen) (WA.of_wc hstep) fun v s1 h1 => ?_).mono (by omega)
      have hfr1 : Fresh s1.scs s1.pos := WC.fresh (h1 ▸ hstep) hfr
      obtain ⟨vs, s2, _, hv'⟩ := bind_ok_inv h1
      simp only [Except.ok.injEq, Prod.mk.injEq] at hv'
      obtain ⟨rfl, _⟩ := hv'
      exact fields_wa rest hwf.2 _ _ hrest path _ s1 (hv.snoc_list fname vs) hfr1
end

theorem decodeArea_wc (tb : MsgTables) (enc : Bool) (t : Ty) (hwt : t.wf = true) (hwe : tb.encParam.wf = true)
    (hat : areaTotal tb.encParam t = true) (path : Path) (s : St) (hfr : Fresh s.scs s.pos) :
    WC s (decodeArea false tb enc t path s) := by
  simp only [areaTotal, Bool.and_eq_true] at hat
  obtain ⟨⟨htot, hok⟩, hv⟩ := hat
  unfold decodeArea
  by_cases hc : (enc && t.isParams) = true
  · simp only [hc, if_true]
    cases henc : encVariant tb.encParam t with
    | none => simp only []; exact (decode_wa t hwt htot path none s (fun _ => hok) hfr).1
    | some nf =>
      obtain ⟨name, fs⟩ := nf
      simp only [henc] at hv
      simp only []
      apply WC.of_emit
      exact ((fields_wa fs (encVariant_wf hwe hwt henc) none [] hv path [] _ VOK.nil
        (by simpa [emitM, emit] using hfr)).1).bind fun vals t' _ => WC.ok _ _
  · simp only [hc, Bool.false_eq_true, if_false]
    exact (decode_wa t hwt htot path none s (fun _ => hok) hfr).1

/-! ### what a session looks like once decoded (for `is_parameter_encryption`) -/

/-- `v` is what some successful warn-mode decode of `t` returned -/
def SessVal (t : Ty) (v : Val) : Prop := ∃ path s s', decode false t path none s = .ok (v, s')

/-- the field loop only appends to the values decoded so far -/
theorem decodeFields_ext : ∀ (fs : Fields) (path : Path) (vals0 vals : List (String × Val)) (s s' : St),
    decodeFields false fs path vals0 s = .ok (vals, s') → ∃ more, vals = vals0 ++ more
  | .nil, _, vals0, vals, s, s', h => by
    simp only [decodeFields, Except.ok.injEq, Prod.mk.injEq] at h; exact ⟨[], by simp [h.1]⟩
  | .cons f' k' t' rest', path, vals0, vals, s, s', h => by
    simp only [decodeFields] at h
    obtain ⟨v', s1', _, h2'⟩ := bind_ok_inv h
    obtain ⟨more, hm⟩ := decodeFields_ext rest' path _ _ _ _ h2'
    exact ⟨(f', v') :: more, by rw [hm]; simp⟩

theorem lookupVal_append (a b : List (String × Val)) (n : String) :
    lookupVal (a ++ b) n = (lookupVal a n).or (lookupVal b n) := by
  simp only [lookupVal, List.find?_append]
  cases List.find? (fun x => x.1 == n) a <;> rfl

theorem decodeFields_lookup (n : String) : ∀ (fs : Fields) (path : Path) (vals0 vals : List (String × Val)) (s s' : St) (p : Prim),
    fs.firstPrim n = some p → lookupVal vals0 n = none → decodeFields false fs path vals0 s = .ok (vals, s') →
    ∃ x, lookupVal vals n = some (.int p.name x)
  | .nil, _, _, _, _, _, _, hp, _, _ => by simp [Fields.firstPrim] at hp
  | .cons f kind t rest, path, vals0, vals, s, s', p, hp, h0, h => by
    simp only [decodeFields] at h
    obtain ⟨v, s1, h1, h2⟩ := bind_ok_inv h
    simp only [Fields.firstPrim] at hp
    by_cases hfe : f = n
    · simp only [hfe, if_true] at hp
      cases kind with
      | plain =>
        cases t with
        | prim q =>
          simp only [Option.some.injEq] at hp
          subst hp
          simp only [decodeFieldWith, decode] at h1
          obtain ⟨x, rfl, _⟩ := readPrim_warn_val h1
          obtain ⟨more, hm⟩ := decodeFields_ext rest path _ _ _ _ h2
          exact ⟨x, by rw [hm, lookupVal_append, lookupVal_append, h0, hfe]; simp [lookupVal]⟩
        | _ => simp at hp
      | _ => simp at hp
    · simp only [hfe, if_false] at hp
      refine decodeFields_lookup n rest path _ vals s1 s' p hp ?_ h2
      rw [lookupVal_append, h0]
      simp [lookupVal, hfe]

theorem sessionFlag_okw {t : Ty} {flag : String} (hok : sessOk t flag = true) {v : Val} (h : SessVal t v) :
    ∃ b, sessionFlag t flag v = .ok b := by
  obtain ⟨path, s, s', h⟩ := h
  cases t with
  | struct name isP sfs =>
    simp only [sessOk] at hok
    split at hok
    · rename_i p p' hfp hfind
      simp only [decode] at h
      obtain ⟨vals, s1, hf, h2⟩ := bind_ok_inv h
      simp only [Except.ok.injEq, Prod.mk.injEq] at h2
      obtain ⟨rfl, _⟩ := h2
      obtain ⟨x, hx⟩ := decodeFields_lookup "sessionAttributes" sfs path [] vals _ s1 p hfp (by simp [lookupVal]) hf
      cases hm : p'.masks.find? (·.1 == flag) with
      | none => simp [hm] at hok
      | some nm =>
        obtain ⟨_, m⟩ := nm
        exact ⟨(x.toNat &&& m != 0), by simp only [sessionFlag, hx, hfind, hm]⟩
    · simp at hok
  | _ => simp [sessOk] at hok

theorem anyFlag_okw {t : Ty} {flag : String} (hok : sessOk t flag = true) :
    ∀ (vs : List Val), (∀ v ∈ vs, SessVal t v) → ∃ b, anyFlag t flag vs = .ok b
  | [], _ => ⟨false, rfl⟩
  | v :: vs, h => by
    obtain ⟨fb, hfb⟩ := sessionFlag_okw hok (h v (by simp))
    obtain ⟨rb, hrb⟩ := anyFlag_okw hok vs (fun u hu => h u (by simp [hu]))
    cases fb with
    | true => exact ⟨true, by simp [anyFlag, hfb]⟩
    | false => exact ⟨rb, by simp [anyFlag, hfb, hrb]⟩

/-- the value of a session area in warn mode: abandoned (`None`) or a list of decoded sessions -/
def AreaVal (t : Ty) (v : Val) : Prop := v = .none ∨ ∃ vs, v = .list vs ∧ ∀ a ∈ vs, SessVal t a

theorem areaFlag_okw {t : Ty} {flag : String} (hok : sessOk t flag = true) {area : Val} (h : AreaVal t area) :
    ∃ b, areaFlag t flag area = .ok b := by
  rcases h with rfl | ⟨vs, rfl, hvs⟩
  · exact ⟨false, rfl⟩
  · exact anyFlag_okw hok vs hvs

theorem ownCatch_ok_inv {id : Nat} {r : R Val} {k : Val → St → R Val} {v : Val} {s' : St} (h : ownCatch false id r k = .ok (v, s')) :
    (∃ bv t, r = .ok (bv, t) ∧ k bv t = .ok (v, s')) ∨ v = .none := by
  cases r with
  | ok vt => exact Or.inl ⟨vt.1, vt.2, rfl, h⟩
  | error es =>
    obtain ⟨e, t⟩ := es
    cases e with
    | exceeded cid cp m a vv b =>
      simp only [ownCatch, Bool.false_or] at h
      split at h
      · cases h
      · simp only [Except.ok.injEq, Prod.mk.injEq] at h
        exact Or.inr h.1.symm
    | _ => cases h

theorem sizedLoop_val (t : Ty) (path : Path) (cid : Nat) : ∀ (fuel i : Nat) (acc : List Val) (s s' : St) (v : Val),
    (∀ a ∈ acc, SessVal t a) → sizedLoop false t path cid fuel i acc s = .ok (v, s') → AreaVal t v := by
  intro fuel
  induction fuel with
  | zero => intro i acc s s' v _ h; simp [sizedLoop, crash] at h
  | succ n ih =>
    intro i acc s s' v hacc h
    unfold sizedLoop at h
    split at h
    · simp [crash] at h
    · split at h
      · simp [crash] at h
      · split at h
        · rcases ownCatch_ok_inv h with ⟨ev, s1, hd, h⟩ | rfl
          · refine ih (i+1) (acc ++ [ev]) s1 s' v (fun a ha => ?_) h
            rcases List.mem_append.mp ha with ha | ha
            · exact hacc a ha
            · rw [List.mem_singleton.mp ha]; exact ⟨_, _, _, hd⟩
          · exact Or.inl rfl
        · obtain ⟨_, s1, _, h2⟩ := bind_ok_inv h
          simp only [Except.ok.injEq, Prod.mk.injEq] at h2
          exact Or.inr ⟨acc, h2.1.symm, hacc⟩

/-- the session loop inside its region `cid` (the last one opened, with `fuel` at least the room left in it + 1):
no internal error — in particular the loop's bound is never hit, because every completed session is charged to the region —
and afterwards the region is gone, the enclosing ones charged exactly the bytes consumed -/
theorem sizedLoop_wc (t : Ty) (hwt : t.wf = true) (htot : t.total = true) (hok : t.okNoSel = true)
    (hne : t.nonEmpty = true) (path : Path) (cid : Nat) :
    ∀ (fuel i : Nat) (acc : List Val) (s : St) (pre : List SC) (c : SC) (m : Nat), s.scs = pre ++ [c] → c.id = cid →
    (∀ d ∈ pre, d.id ≠ cid) → c.max = some m → Fresh s.scs s.pos → (m - c.already) + 1 ≤ fuel →
    WC { s with scs := pre } (sizedLoop false t path cid fuel i acc s) := by
  intro fuel
  induction fuel with
  | zero => intro i acc s pre c m _ _ _ _ _ hf; omega
  | succ n ih =>
    intro i acc s pre c m hs hc hpre hm hfr hf
    subst hc
    unfold sizedLoop
    rw [hs, findSC_last c.id pre c rfl hpre]
    simp only [hm]
    split
    · rename_i hlt
      have hbody := decode_wa t hwt htot (elemPath path i) none s (fun _ => hok) hfr
      refine hbody.1.own hs hpre fun v s1 hv hp hs1 => ?_
      have hk := hbody.2 v s1 hv
      have hml := nonEmpty_minLen hne
      exact ih (i+1) (acc ++ [v]) s1 _ _ m hs1 rfl (bump_ids hpre) hm (WC.fresh (hv ▸ hbody.1) hfr)
        (by simp only [SC.bump]; omega)
    · rw [removeSC_last c.id pre c rfl hpre]
      exact (assertDoneSC_wc c { s with scs := pre } m hm).bind fun _ t' _ => WC.ok _ _

theorem decodeSized_wc (t : Ty) (hwt : t.wf = true) (htot : t.total = true) (hok : t.okNoSel = true)
    (hne : t.nonEmpty = true) (path : Path) (cid : Nat) (s : St) (pre : List SC) (c : SC) (m : Nat)
    (hs : s.scs = pre ++ [c]) (hc : c.id = cid) (hpre : ∀ d ∈ pre, d.id ≠ cid) (hm : c.max = some m) (hfr : Fresh s.scs s.pos) :
    WC { s with scs := pre } (decodeSized false t path cid s) := by
  unfold decodeSized
  simp only []
  refine sizedLoop_wc t hwt htot hok hne path cid _ 0 [] (emitM ⟨path, .listOf t.name, none, "", 0⟩ s) pre c m
    (by simpa [emitM, emit] using hs) hc hpre hm (by simpa [emitM, emit] using hfr) ?_
  simp only [emitM, emit, sizedFuel, hs, findSC_last cid pre c hc hpre, hm, Option.getD_some]
  omega

theorem decodeSized_val (t : Ty) (path : Path) (cid : Nat) (s s' : St) (v : Val)
    (h : decodeSized false t path cid s = .ok (v, s')) : AreaVal t v := by
  unfold decodeSized at h
  exact sizedLoop_val t path cid _ 0 [] _ s' v (by intro a ha; cases ha) h

/-- the values gathered so far hold a session area only as the session loop returned it -/
def AuthOk (t : Ty) (vals : List (String × Val)) : Prop := ∀ area, lookupVal vals "authorizationArea" = some area → AreaVal t area

theorem AuthOk.of_none {t : Ty} {vals : List (String × Val)} (h : lookupVal vals "authorizationArea" = none) : AuthOk t vals :=
  fun _ ha => nomatch h ▸ ha

theorem AuthOk.nil (t : Ty) : AuthOk t [] := .of_none rfl

theorem AuthOk.snoc {t : Ty} {vals : List (String × Val)} (h : AuthOk t vals) (k : String) (v : Val)
    (hk : k = "authorizationArea" → AreaVal t v) : AuthOk t (vals ++ [(k, v)]) := by
  intro area ha
  rw [lookupVal_append] at ha
  cases hf : lookupVal vals "authorizationArea" with
  | some a =>
    rw [hf] at ha
    exact h area (hf.trans ha)
  | none =>
    rw [hf] at ha
    by_cases hke : k = "authorizationArea"
    · simp only [Option.none_or, lookupVal, List.find?_cons, hke, beq_self_eq_true, Option.map_some, Option.some.injEq] at ha
      exact ha ▸ hk hke
    · simp [lookupVal, hke] at ha

/-- what a message walker may end with in warn mode: no internal error; on success at least one byte was consumed and
the object's session area (if any) is as the session loop returned it -/
def CM (name : String) (sessTy : Ty) (s0 : St) (r : R Val) : Prop :=
  NC r ∧ ∀ v s', r = .ok (v, s') → s0.pos + 1 ≤ s'.pos ∧ ∃ vals, v = .obj name false vals ∧ AuthOk sessTy vals

theorem CM.of_nc {name : String} {sessTy : Ty} {s0 : St} {r : R Val} (h : NC r) (hne : ∀ v s', r ≠ .ok (v, s')) : CM name sessTy s0 r :=
  ⟨h, fun v s' hh => absurd hh (hne v s')⟩

/-- what a response walker may end with in warn mode: no internal error but the encryption-flag assertion (the known
finding); on success at least one byte was consumed -/
def RM (s0 : St) (r : R Val) : Prop := NCX r ∧ ∀ v s', r = .ok (v, s') → s0.pos + 1 ≤ s'.pos

def NCErr (e : Err) : Prop := ∀ c m, e ≠ .crash c m

def NCXErr (e : Err) : Prop := ∀ c m, e = .crash c m → isMismatch c m

theorem NCErr.ncx {e : Err} (h : NCErr e) : NCXErr e := fun c m he => absurd he (h c m)

theorem CM.of_ends {name : String} {sessTy : Ty} {s0 : St} {r : R Val}
    (h : Ends NCErr (fun v s' => s0.pos + 1 ≤ s'.pos ∧ ∃ vals, v = .obj name false vals ∧ AuthOk sessTy vals) r) :
    CM name sessTy s0 r := by
  cases r with
  | ok vt => exact ⟨NC.ok _ _, fun v s' hh => by cases hh; exact h⟩
  | error et => exact ⟨NC.error_ne h, fun v s' hh => nomatch hh⟩

theorem RM.of_ends {s0 : St} {r : R Val} (h : Ends NCXErr (fun _ s' => s0.pos + 1 ≤ s'.pos) r) : RM s0 r := by
  cases r with
  | ok vt => exact ⟨(NC.ok _ _).ncx, fun v s' hh => by cases hh; exact h⟩
  | error et => exact ⟨fun c m s hh => by cases hh; exact h c m rfl, fun v s' hh => nomatch hh⟩

/-- the three facts the message's `except` needs about the step it guards -/
structure Guarded (s : St) (r : R Val) : Prop where
  pos : s.pos ≤ (stOf r).pos
  nc : NC r
  exc : ∀ cid cp m a v b t, r = .error (.exceeded cid cp m a v b, t) → ∃ c ∈ s.scs, c.id = cid

/-- a body inside a freshly opened region followed by that region's `assert_done`, without an `except` of its own
(the parameter area of a response inside `parameterSize`: the message's `except` catches for it) -/
theorem inRegion {s1 s2 : St} {id : Nat} {cpath : Path} {n : Nat} (hs2 : s2.scs = s1.scs ++ [⟨id, cpath, 0, some n⟩])
    (hpos : s2.pos = s1.pos) (hfresh : ∀ d ∈ s1.scs, d.id ≠ id) {r : R Val} (hr : WC s2 r) :
    Guarded s2 (r.bind fun bv s => (assertDone false id s).bind fun _ s => .ok (bv, s)) ∧
    ∀ v t, (r.bind fun bv s => (assertDone false id s).bind fun _ s => .ok (bv, s)) = .ok (v, t) →
      s1.pos ≤ t.pos ∧ t.scs = bump s1.scs (t.pos - s1.pos) := by
  cases r with
  | error et =>
    obtain ⟨e, t⟩ := et
    refine ⟨⟨hr.1, hr.2.1, fun cid cp m a v b t' hh => ?_⟩, fun v t' hh => nomatch hh⟩
    cases hh
    obtain ⟨pre, c, post, hdec, hcid, _⟩ := hr.2.2 cid cp m a v b rfl
    exact ⟨c, by rw [hdec]; simp, hcid⟩
  | ok vt =>
    obtain ⟨bv, t0⟩ := vt
    simp only [R.bind_ok]
    have how : WC s1 ((assertDone false id t0).bind fun _ s => .ok (bv, s)) := owner_wc hs2 hpos hfresh hr fun bv => bv
    refine ⟨⟨hpos ▸ how.1, how.2.1, fun cid cp m a v b t hh => ?_⟩, fun v t hh => ?_⟩
    · have h2 := how.2.2
      rw [hh] at h2
      obtain ⟨pre, c, post, hdec, hcid, _⟩ := h2 cid cp m a v b rfl
      exact ⟨c, by rw [hs2, hdec]; simp, hcid⟩
    · have h1 := how.1
      have h2 := how.2.2
      rw [hh] at h1 h2
      exact ⟨h1, h2⟩

theorem MsgTables.total_warn {tb : MsgTables} (ht : tb.total = true) :
    tb.wf = true ∧ (tb.cmdSize.signed = false ∧ tb.authSize.signed = false ∧ tb.rspSize.signed = false ∧ tb.paramSize.signed = false) ∧
      (tb.authCmd.total = true ∧ tb.authCmd.okNoSel = true) ∧ (tb.authRsp.total = true ∧ tb.authRsp.okNoSel = true) ∧
      (sessOk tb.authCmd "decrypt" = true ∧ sessOk tb.authCmd "encrypt" = true ∧ sessOk tb.authRsp "encrypt" = true) ∧
      ∀ w : Layouts, (w.get tb).all (areaTotal tb.encParam ·.2) = true := by
  simp only [MsgTables.total, Bool.and_eq_true, Bool.not_eq_true'] at ht
  obtain ⟨⟨⟨⟨⟨⟨⟨⟨⟨⟨⟨⟨⟨⟨⟨hw, u1⟩, u2⟩, u3⟩, u4⟩, tc⟩, oc⟩, tr⟩, or⟩, s1⟩, s2⟩, s3⟩, a1⟩, a2⟩, a3⟩, a4⟩ := ht
  exact ⟨hw, ⟨u1, u2, u3, u4⟩, ⟨tc, oc⟩, ⟨tr, or⟩, ⟨s1, s2, s3⟩, fun w => by cases w <;> assumption⟩

section
variable {E : Err → Prop} (hE : ∀ e, NCErr e → E e) {c : Cfg} {s : St}
include hE

theorem WC.step {r : R Val} (h : WC s r) : Step E c s r where
  pos := h.1
  regs := fun v t hr => by subst hr; rw [h.2.2, sig_bump]
  err := fun e t hr => Or.inl (hE e fun cl m he => h.2.1 cl m t (he ▸ hr))

theorem WC.ends {α : Type} {r : R α} (h : WC s r) (hs : s.scs = []) : Ends E (fun _ t => s.pos ≤ t.pos ∧ t.scs = []) r := by
  cases r with
  | ok at' => exact ⟨h.1, by rw [h.2.2, hs]; rfl⟩
  | error et => exact hE _ fun cl m he => h.2.1 cl m et.2 (by rw [← he])

variable {Q : Val → St → Prop} {mx : Option Nat} (ha : c.abort = false) {vals : List (String × Val)}
include ha

namespace Msg

theorem size_nc {f : HField} {what : String} {k : Val → Nat → Prog Val} (hu : (f.prim c.tb).signed = false) (hs : Msg c mx s)
    (hc : ∀ e t, c.own + 1 ≤ t.pos → Q (.obj c.name false vals) (emitW e t))
    (hk : ∀ v n t, Msg c mx t → Ends E Q ((k v n).run c t)) :
    Ends E Q ((Prog.hdr vals f fun v => Prog.bind (Prog.check (.size v what)) (k v)).run c s) := by
  have hl := Prog.run_field_warn ha f s
  refine hs.attempt ha (hl ▸ (readPrim_wc _ _ s).step hE) hc fun v t hv ht => ?_
  obtain ⟨x, rfl, hx⟩ := readPrim_warn_val (hl ▸ hv)
  rw [Prog.run_bind, Prog.run_check, Check.bind_size]
  have : ¬ x < 0 := by have := hx hu; omega
  simp only [vInt, Val.asInt?, this, if_false]
  exact hk _ _ t ht

theorem field_nc {f : HField} {k : Val → Prog Val} (hs : Msg c mx s)
    (hc : ∀ e t, c.own + 1 ≤ t.pos → Q (.obj c.name false vals) (emitW e t))
    (hk : ∀ v t, Msg c mx t → Ends E Q ((k v).run c t)) : Ends E Q ((Prog.hdr vals f k).run c s) := by
  refine hs.attempt ha ?_ hc fun v t _ => hk v t
  rw [Prog.run_field_warn ha]
  exact (readPrim_wc _ _ s).step hE

omit hE mx in
theorem area_wc (ht : c.tb.total = true) (w : Layouts) (key : Option Int) (enc : Bool) (nm : String) (hfr : Fresh s.scs s.pos) :
    WC s (Leaf.run c (.area w key enc nm) s) := by
  obtain ⟨hw, _, _, _, _, al⟩ := MsgTables.total_warn ht
  obtain ⟨_, _, _, _, we, wl⟩ := MsgTables.wf_warn hw
  rw [Leaf.run]
  split
  · exact WC.error_free (Nat.le_refl _) (by cases key <;> exact fun _ _ h => nomatch h) (by cases key <;> exact fun _ _ _ _ _ _ h => nomatch h)
  · rename_i ty hty
    obtain ⟨k, _, hk⟩ := Option.bind_eq_some_iff.mp hty
    rw [ha]
    exact decodeArea_wc c.tb enc ty (lookupTy_wf (wl w) hk) we (lookupTy_all (al w) hk) _ s hfr

theorem area_nc (ht : c.tb.total = true) {w : Layouts} {key : Option Int} {enc : Bool} {nm : String} {k : Val → Prog Val}
    (hs : Msg c mx s) (hc : ∀ e t, c.own + 1 ≤ t.pos → Q (.obj c.name false vals) (emitW e t))
    (hk : ∀ v t, Msg c mx t → Ends E Q ((k v).run c t)) :
    Ends E Q ((Prog.attempt vals (Prog.leaf (.area w key enc nm)) k).run c s) :=
  hs.attempt ha ((area_wc ha ht w key enc nm hs.fresh).step hE) hc fun v t _ => hk v t

theorem sessionsCmd_nc (ht : c.tb.total = true) {k : Val → Prog Val} {s' : St} {cpath : Path} {n : Nat}
    (hs : Msg c mx s) (hs' : s'.scs = s.scs ++ [⟨c.own + 1, cpath, 0, some n⟩]) (hp : s'.pos = s.pos)
    (hc : ∀ e t, c.own + 1 ≤ t.pos → Q (.obj c.name false vals) (emitW e t))
    (hk : ∀ v t, AreaVal c.tb.authCmd v → Msg c mx t → Ends E Q ((k v).run c t)) :
    Ends E Q ((Prog.attempt vals (Prog.leaf (.sessions false)) k).run c s') := by
  obtain ⟨hw, _, ⟨ta, oa⟩, _, _, _⟩ := MsgTables.total_warn ht
  obtain ⟨_, _, ⟨wa, na⟩, _, _, _⟩ := MsgTables.wf_warn hw
  have hin : Msg c mx { s' with scs := s.scs } := ⟨hs.1, hp ▸ hs.2⟩
  have hl : (Prog.leaf (.sessions false)).run c s' = decodeSized false c.tb.authCmd (c.at "authorizationArea") (c.own + 1) s' := by
    rw [Prog.run_leaf, Leaf.run, ha]
  obtain ⟨hne, hfr, _⟩ := hs.inner hs' hp
  refine hin.attempt ha ?_ hc fun v t hv => hk v t (decodeSized_val _ _ _ _ _ _ (hl ▸ hv))
  exact hl ▸ (decodeSized_wc c.tb.authCmd wa ta oa na _ (c.own + 1) s' s.scs _ n hs' rfl hne rfl hfr).step hE

theorem paramsInner_nc (ht : c.tb.total = true) {w : Layouts} {key : Option Int} {enc : Bool} {nm : String} {ts : Test}
    (hts : ts.eval c.tb = true) {k : Val → Prog Val} {s' : St} {cpath : Path} {n : Nat}
    (hs : Msg c mx s) (hs' : s'.scs = s.scs ++ [⟨c.own + 1, cpath, 0, some n⟩]) (hp : s'.pos = s.pos)
    (hc : ∀ e t, c.own + 1 ≤ t.pos → Q (.obj c.name false vals) (emitW e t))
    (hk : ∀ v t, Msg c mx t → Ends E Q ((k v).run c t)) :
    Ends E Q ((Prog.attempt vals (Prog.bind (Prog.leaf (.area w key enc nm)) fun pv =>
      Prog.cond ts (Prog.bind (Prog.leaf (.done true)) fun _ => Prog.pure pv) (Prog.pure pv)) k).run c s') := by
  obtain ⟨hne, hfr, _⟩ := hs.inner hs' hp
  refine hs.attempt ha ?_ hc fun v t _ => hk v t
  have hd : ∀ t, Leaf.run c (.done true) t = assertDone false (c.own + 1) t := fun t => by rw [Leaf.run, ha]; rfl
  simp only [Prog.run_bind, Prog.run_cond, hts, if_true, Prog.run_leaf, Prog.run_pure, hd]
  obtain ⟨hg, hok⟩ := inRegion hs' hp hne (area_wc ha ht w key enc nm hfr)
  exact ⟨hp ▸ hg.pos, fun v t hv => by rw [(hok v t hv).2, sig_bump], fun e t hr => Or.inl (hE e fun cl m he => hg.nc cl m t (he ▸ hr))⟩

theorem params_nc (ht : c.tb.total = true) {w : Layouts} {key : Option Int} {enc : Bool} {nm : String} {ts : Test}
    (hts : ts.eval c.tb = false) {k : Val → Prog Val} {p : Val → Prog Val} (hs : Msg c mx s)
    (hc : ∀ e t, c.own + 1 ≤ t.pos → Q (.obj c.name false vals) (emitW e t))
    (hk : ∀ v t, Msg c mx t → Ends E Q ((k v).run c t)) :
    Ends E Q ((Prog.attempt vals (Prog.bind (Prog.leaf (.area w key enc nm)) fun pv => Prog.cond ts (p pv) (Prog.pure pv)) k).run c s) := by
  refine hs.attempt ha ?_ hc fun v t _ => hk v t
  simp only [Prog.run_bind, Prog.run_cond, hts, Bool.false_eq_true, if_false, Prog.run_pure, R.bind_pure, Prog.run_leaf]
  exact (area_wc ha ht w key enc nm hs.fresh).step hE

theorem sessionsRsp_nc (ht : c.tb.total = true) {k : Val → Prog Val} {n : Nat} (hs : Msg c (some n) s)
    (hc : ∀ e t, c.own + 1 ≤ t.pos → Q (.obj c.name false vals) (emitW e t))
    (hk : ∀ v t, AreaVal c.tb.authRsp v → c.own + 1 ≤ t.pos → t.scs = [] → Ends E Q ((k v).run c t)) :
    Ends E Q ((Prog.attempt vals (Prog.leaf (.sessions true)) k).run c s) := by
  obtain ⟨hw, _, _, ⟨ta, oa⟩, _, _⟩ := MsgTables.total_warn ht
  obtain ⟨_, _, _, ⟨wa, na⟩, _, _⟩ := MsgTables.wf_warn hw
  obtain ⟨a, hsa, hid, hmax⟩ := sole_of_sig hs.1
  have hl : (Prog.leaf (.sessions true)).run c s = decodeSized false c.tb.authRsp (c.at "authorizationArea") c.own s := by
    rw [Prog.run_leaf, Leaf.run, ha]
  refine Step.attempt ha (s' := { s with scs := [] }) ?_ (fun _ _ _ _ _ _ t _ hp => hc _ t (Nat.le_trans hs.2 hp))
    fun v t hv hp hg => hk v t (decodeSized_val _ _ _ _ _ _ (hl ▸ hv)) (Nat.le_trans hs.2 hp) (List.map_eq_nil_iff.mp hg)
  exact hl ▸ (decodeSized_wc c.tb.authRsp wa ta oa na _ c.own s [] a n hsa hid (fun _ hd => nomatch hd) hmax hs.fresh).step hE

theorem done_nc {k : Unit → Prog Val} {n : Nat} (hs : Msg c (some n) s)
    (hk : ∀ t, c.own + 1 ≤ t.pos → t.scs = [] → Ends E Q ((k ()).run c t)) :
    Ends E Q ((Prog.bind (Prog.leaf (.done false)) k).run c s) := by
  obtain ⟨a, hsa, hid, hmax⟩ := sole_of_sig hs.1
  rw [Prog.run_bind, Prog.run_leaf, Leaf.run, ha]
  simp only [Bool.false_eq_true, if_false]
  rw [assertDone_last (pre := []) hsa hid (fun _ hd => nomatch hd)]
  exact ((assertDoneSC_wc a _ n hmax).ends hE rfl).bind fun _ t ht => hk t (Nat.le_trans hs.2 ht.1) ht.2

end Msg

omit hE ha in
theorem flag_nc {P : R Val → Prop} {rsp : Bool} {area : Val} {k : Bool → Prog Val}
    (ht : c.tb.total = true) (hv : AreaVal (if rsp then c.tb.authRsp else c.tb.authCmd) area) (hk : ∀ b, P ((k b).run c s)) :
    P ((Prog.bind (Prog.check (.flag rsp area)) k).run c s) := by
  obtain ⟨_, _, _, _, ⟨sd, _, se⟩, _⟩ := MsgTables.total_warn ht
  rw [Prog.run_bind, Prog.run_check, Check.bind_flag]
  cases rsp
  · obtain ⟨b, hb⟩ := areaFlag_okw sd hv
    simp only [Bool.false_eq_true, if_false, hb]; exact hk b
  · obtain ⟨b, hb⟩ := areaFlag_okw se hv
    simp only [if_true, hb]; exact hk b

omit hE ha in
theorem closed_nc {P : R Val → Prop} {k : Unit → Prog Val} (hs : s.scs = []) (hk : P ((k ()).run c s)) :
    P ((Prog.bind (Prog.check .closed) k).run c s) := by
  rw [Prog.run_bind, Prog.run_check, Check.bind_closed, hs]
  exact hk

end

section
variable {c : Cfg} {s : St} (ha : c.abort = false) (ht : c.tb.total = true)
include ha ht

def CmdEnd (c : Cfg) (v : Val) (t : St) : Prop := c.own + 1 ≤ t.pos ∧ ∃ vals, v = .obj c.name false vals ∧ AuthOk c.tb.authCmd vals

omit ha ht in
theorem CmdEnd.catch {vals : List (String × Val)} (hv : AuthOk c.tb.authCmd vals) (e : Err) (t : St) (hp : c.own + 1 ≤ t.pos) :
    CmdEnd c (.obj c.name false vals) (emitW e t) := ⟨hp, vals, rfl, hv⟩

theorem cmdTail_nc (hn : c.name = "Command") {n : Nat} (cc : Int) {vals : List (String × Val)} (enc : Bool)
    (hv : AuthOk c.tb.authCmd vals) (hs : Msg c (some n) s) : Ends NCErr (CmdEnd c) ((Prog.cmdTail cc vals enc).run c s) :=
  hs.area_nc (fun _ h => h) ha ht (CmdEnd.catch hv) fun pv _ h1 => h1.done_nc (fun _ h => h) ha fun _ hp _ =>
    ⟨hp, _, by rw [hn], hv.snoc _ _ fun he => absurd he (by decide)⟩

omit ht in
theorem rspFinish_nc {n : Nat} (vals : List (String × Val)) (hs : Msg c (some n) s) :
    Ends NCXErr (fun _ t => c.own + 1 ≤ t.pos) ((Prog.rspFinish vals).run c s) :=
  hs.done_nc (fun _ => NCErr.ncx) ha fun _ hp he => closed_nc he hp

end

theorem decodeCommand_cm (tb : MsgTables) (ht : tb.total = true) (path : Path) (s0 : St) :
    CM "Command" tb.authCmd s0 (decodeCommand false tb path s0) := by
  rw [decodeCommand_eq_run]
  have ha : (⟨false, tb, path, s0.pos, "Command"⟩ : Cfg).abort = false := rfl
  obtain ⟨hw, ⟨uc, ua, _, _⟩, _⟩ := MsgTables.total_warn ht
  have hE : ∀ e, NCErr e → NCErr e := fun _ h => h
  refine CM.of_ends (?_ : Ends NCErr (CmdEnd ⟨false, tb, path, s0.pos, "Command"⟩) _)
  refine Step.first ha (f := .tagCmd) rfl (Nat.le_refl _) (MsgTables.wf_warn hw).1 ((readPrim_wc _ _ _).step hE) fun tag s1 _ h1 => ?_
  refine h1.size_nc hE ha (f := .cmdSize) uc (CmdEnd.catch (.of_none rfl)) fun csz n s2 h2 => ?_
  refine h2.setOwn ha fun s3 h3 => ?_
  refine h3.field_nc hE ha (CmdEnd.catch (.of_none rfl)) fun ccv s4 h4 => ?_
  refine h4.area_nc hE ha ht (CmdEnd.catch (.of_none rfl)) fun hv s5 h5 => ?_
  rw [Prog.run_cond]
  split
  · refine h5.size_nc hE ha (f := .authSize) ua (CmdEnd.catch (.of_none rfl)) fun asz an s6 h6 => ?_
    refine Msg.openInner ha fun s7 hs7 p7 => ?_
    refine h6.sessionsCmd_nc hE ha ht hs7 p7 (CmdEnd.catch (.of_none rfl)) fun area s8 hav h8 => ?_
    refine flag_nc (rsp := false) ht hav fun enc => cmdTail_nc ha ht rfl _ enc ?_ h8
    exact (AuthOk.of_none rfl).snoc _ _ fun _ => hav
  · exact cmdTail_nc ha ht rfl _ false (.of_none rfl) h5

theorem decodeResponse_rm (tb : MsgTables) (ht : tb.total = true) (cc : Option Int) (enc : Bool) (path : Path) (s0 : St) :
    RM s0 (decodeResponse false tb cc enc path s0) := by
  rw [decodeResponse_eq_run]
  have ha : (⟨false, tb, path, s0.pos, "Response"⟩ : Cfg).abort = false := rfl
  obtain ⟨hw, ⟨_, _, ur, up⟩, _⟩ := MsgTables.total_warn ht
  have hE : ∀ e, NCErr e → NCXErr e := fun _ => NCErr.ncx
  have hc : ∀ (e : Err) (t : St), s0.pos + 1 ≤ t.pos → s0.pos + 1 ≤ (emitW e t).pos := fun _ _ h => h
  refine RM.of_ends ?_
  refine Step.first ha (f := .tagRsp) rfl (Nat.le_refl _) (MsgTables.wf_warn hw).2.1 ((readPrim_wc _ _ _).step hE) fun tag s1 _ h1 => ?_
  refine h1.size_nc hE ha (f := .rspSize) ur hc fun rsz n s2 h2 => ?_
  refine h2.setOwn ha fun s3 h3 => ?_
  refine h3.field_nc hE ha hc fun rcv s4 h4 => ?_
  rw [Prog.run_cond]
  split
  · exact rspFinish_nc ha _ h4
  refine h4.area_nc hE ha ht hc fun hv s5 h5 => ?_
  cases hsess : vInt tag == some tb.sessionsTag
  · simp only [Prog.run_cond, Test.eval, hsess, Bool.false_eq_true, if_false]
    refine h5.params_nc hE ha ht (ts := .sessions tag) hsess hc fun pv s6 h6 => ?_
    simp only [Prog.run_cond, Test.eval, hsess, Bool.not_false, if_true]
    exact rspFinish_nc ha _ h6
  · simp only [Prog.run_cond, Test.eval, hsess, if_true]
    refine h5.size_nc hE ha (f := .paramSize) up hc fun psz pn s6 h6 => ?_
    refine Msg.openInner ha fun s7 hs7 p7 => ?_
    refine h6.paramsInner_nc hE ha ht (ts := .sessions tag) hsess hs7 p7 hc fun pv s8 h8 => ?_
    simp only [Prog.run_cond, Test.eval, hsess, Bool.not_true, Bool.false_eq_true, if_false]
    refine h8.sessionsRsp_nc hE ha ht hc fun area s9 hav hp he => ?_
    refine flag_nc (rsp := true) ht hav fun expected => ?_
    rw [Prog.run_cond]
    split
    · exact fun _ _ h => by cases h; exact ⟨rfl, rfl⟩
    · exact closed_nc he hp

/-! ### streams, and every top-level decode -/

theorem cmdEncrypt_okw (tb : MsgTables) (hs : sessOk tb.authCmd "encrypt" = true) {vals : List (String × Val)} (hav : AuthOk tb.authCmd vals) :
    ∃ enc, cmdEncrypt tb (.obj "Command" false vals) = .ok enc := by
  unfold cmdEncrypt
  simp only [objField]
  cases hl : lookupVal vals "authorizationArea" with
  | none => exact ⟨false, rfl⟩
  | some area =>
    rcases hav area hl with rfl | ⟨vs, rfl, hvs⟩
    · exact ⟨false, rfl⟩
    · exact areaFlag_okw hs (.inr ⟨vs, rfl, hvs⟩)

/-- **the stream loop in warn mode**: no internal error but the known assertion, and the loop's bound is never hit (every
message it completes consumes at least one byte) -/
theorem decodeStream_ncxw (tb : MsgTables) (ht : tb.total = true) (path : Path) :
    ∀ (fuel : Nat) (s : St), s.inp.length < fuel → NCX (decodeStream false tb path fuel s) := by
  obtain ⟨_, _, _, _, ⟨_, sEncC, _⟩, _⟩ := MsgTables.total_warn ht
  intro fuel
  induction fuel with
  | zero => intro s hf; omega
  | succ n ih =>
    intro s hf
    unfold decodeStream
    by_cases he : s.inp.isEmpty = true
    · rw [if_pos he]; exact (NC.ok _ _).ncx
    · rw [if_neg he]
      have hc := decodeCommand_cm tb ht path s
      refine hc.1.ncx.bind fun cmd s1 h1 => ?_
      obtain ⟨hp1, vals, rfl, hav⟩ := hc.2 cmd s1 h1
      obtain ⟨enc, henc⟩ := cmdEncrypt_okw tb sEncC hav
      simp only [henc]
      by_cases he1 : s1.inp.isEmpty = true
      · rw [if_pos he1]; exact (NC.ok _ _).ncx
      · rw [if_neg he1]
        have hr := decodeResponse_rm tb ht ((objField (.obj "Command" false vals) "commandCode").bind vInt) enc path s1
        refine hr.1.bind fun rsp s2 h2 => ?_
        have hp2 := hr.2 rsp s2 h2
        have l1 : s1.inp.length < s.inp.length := by
          have := decodeCommand_pi false tb path s
          rw [h1] at this
          exact this.shorter (by omega)
        have l2 : s2.inp.length < s1.inp.length := by
          have := decodeResponse_pi false tb ((objField (.obj "Command" false vals) "commandCode").bind vInt) enc path s1
          rw [h2] at this
          exact this.shorter (by omega)
        exact ih s2 (by omega)

/-- structures and commands: no internal error at all -/
theorem runWalker_ncw_ty (tb : MsgTables) (t : Ty) (hwf : t.wf = true) (htot : t.total = true) (hok : t.okNoSel = true) (x : List Byte) :
    NC (runWalker false tb (.ty t) x) :=
  (decode_wa t hwf htot rootPath none (initSt x) (fun _ => hok) (by intro c hc; cases hc)).1.2.1

theorem runWalker_ncw_command (tb : MsgTables) (ht : tb.total = true) (x : List Byte) : NC (runWalker false tb .command x) :=
  (decodeCommand_cm tb ht rootPath (initSt x)).1

/-- **warn mode, every top-level decode**: the walker never ends in an internal error, but for the assertion that compares
the caller's response-encryption flag with the response's own session attributes (the known finding) -/
theorem runWalker_ncxw (tb : MsgTables) (ht : tb.total = true) (top : Top)
    (htop : ∀ t, top = .ty t → t.wf = true ∧ t.total = true ∧ t.okNoSel = true) (x : List Byte) :
    NCX (runWalker false tb top x) := by
  cases top with
  | ty t =>
    obtain ⟨hwf, htot, hok⟩ := htop t rfl
    exact (runWalker_ncw_ty tb t hwf htot hok x).ncx
  | command => exact (runWalker_ncw_command tb ht x).ncx
  | response cc enc => exact (decodeResponse_rm tb ht cc enc rootPath (initSt x)).1
  | stream => exact decodeStream_ncxw tb ht rootPath (x.length + 1) (initSt x) (by simp [initSt])
