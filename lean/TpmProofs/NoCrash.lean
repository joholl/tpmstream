import TpmProofs.DecodeSound
/-!
# The strict walker never fails with an internal error (C06)

`NC r`: the result `r` is not a `crash` (the model's rendering of AssertionError / TypeError / KeyError / IndexError /
RuntimeError / NameError escaping from the package).  For every layout that meets the static side conditions
`Ty.total` (kernel-decided for all layouts of /repo): counts are read from an integer field, selectors name an earlier
integer field, unions decoded without selector have a fallback member, list members have a declared size, size fields
are unsigned — the strict walker, on ANY input, in any context with fresh region ids, either succeeds or stops with
one of the documented errors.  (`NC`, `Ty.total` and the walk itself, `decode_tol`, are in DecodeSound.lean: the same walk
gives soundness.)
-/

theorem decode_nc : (t : Ty) → t.wf = true → t.total = true → ∀ (path : Path) (sel : Option Int) (s : St),
    (sel = none → t.okNoSel = true) → Fresh s.scs s.pos → NC (decode true t path sel s) :=
  fun t hwf htot path sel s _ hfr =>
    R.bind_pure (decode true t path sel s) ▸
      decode_tol Tol.nc t hwf (fun _ => htot) path sel s _ hfr fun v s1 _ _ _ _ => NC.ok v s1

theorem arm_nc : (arms : Arms) → arms.wf = true → arms.total = true → ∀ (un want : String) (path : Path) (s : St),
    want ∈ arms.keys.map (·.1) → Fresh s.scs s.pos → NC (decodeArm true arms un want path s) :=
  fun arms hwf htot un want path s hmem hfr =>
    R.bind_pure (decodeArm true arms un want path s) ▸
      arm_tol Tol.nc arms hwf (fun _ => htot) un want path s _ (fun _ => hmem) hfr fun v s1 _ _ _ _ => NC.ok v s1
