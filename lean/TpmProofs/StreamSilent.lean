import TpmProofs.ShapeMsg
import TpmProofs.StreamFacts
/-!
# The pump ends a stream run silently only if the stream walker ended cleanly (C05)

The pump stops silently at a root `...` event stamped with the input length.  Inside a message such an event is only the
message's first event, stamped with the position the message starts at — which is before the end of the input, because the loop
starts a message only when input is left.  So a root event stamped with the input length is the loop's own announcement of the
next message, after which the walker returns.

`RootsAt p` / `NoRootAt L`: the root events of a trace are stamped `p` / before `L`; `EndsOrNoRoot L s r`: the invariant of the
stream loop (`decodeStream_roots`).
-/

/-- in the events of one message decoded from `s`, a root `...` event is stamped `s.pos` -/
def RootsAt (p : Nat) (new : List (Nat × Event)) : Prop := ∀ ke ∈ new, isRootEllipsis ke.2 = true → ke.1 = p

theorem msg_roots {r : R Val} {s : St} {okc : MEvent → Prop} (htr : Tr (GM1 okc rootPath) s r) (hacct : Acct s r) :
    ∃ new, (stOf r).out = s.out ++ new ∧ RootsAt s.pos new := by
  obtain ⟨new, o1, hgm⟩ := htr
  obtain ⟨new', off, o2, _, _, hst, _⟩ := hacct
  have : new = new' := List.append_cancel_left (o1.symm.trans o2)
  subst this
  refine ⟨new, o1, ?_⟩
  obtain ⟨_, m0, E', hE, hm0, hrest⟩ := hgm
  cases new with
  | nil => simp at hE
  | cons ke0 rest =>
    simp only [List.map_cons, List.cons.injEq] at hE
    intro ke hke hroot
    rcases List.mem_cons.mp hke with rfl | hke
    · -- the first event: stamped with the start position plus its own (no) bytes
      obtain ⟨k, e⟩ := ke
      simp only [Stamped] at hst
      rw [hst.1, rootEllipsis_bytes hroot]; rfl
    · exfalso
      obtain ⟨k, e⟩ := ke
      cases e with
      | warning w => simp [isRootEllipsis] at hroot
      | marshal m =>
        have hmem : Event.marshal m ∈ E' := by rw [← hE.2]; exact List.mem_map_of_mem (f := (·.2)) hke
        simp only [isRootEllipsis, Bool.and_eq_true, beq_iff_eq] at hroot
        exact hrest m hmem hroot.1

/-- no root `...` event is stamped `L` -/
def NoRootAt (L : Nat) (new : List (Nat × Event)) : Prop := ∀ ke ∈ new, isRootEllipsis ke.2 = true → ke.1 < L

theorem NoRootAt.append {L : Nat} {a b : List (Nat × Event)} (ha : NoRootAt L a) (hb : NoRootAt L b) : NoRootAt L (a ++ b) := by
  intro ke hke
  rcases List.mem_append.mp hke with h | h
  · exact ha ke h
  · exact hb ke h

theorem NoRootAt.of_roots {L p : Nat} {new : List (Nat × Event)} (h : RootsAt p new) (hp : p < L) : NoRootAt L new :=
  fun ke hke hr => by rw [h ke hke hr]; exact hp

def EndsOrNoRoot (L : Nat) (s : St) (r : R Val) : Prop :=
  ∃ new, (stOf r).out = s.out ++ new ∧ ((∃ v t, r = .ok (v, t)) ∨ NoRootAt L new)

/-- one phase of the loop: the message `f` decodes starts before the end, so its root event is not stamped with the end -/
theorem EndsOrNoRoot.phase {α : Type} {L : Nat} {s : St} {m : MEvent} {f : St → R α} {g : α → St → R Val}
    (hL : s.pos + s.inp.length = L) (hf : ∃ new, (stOf (f s)).out = s.out ++ new ∧ RootsAt s.pos new)
    (hg : ∀ a t, f s = .ok (a, t) → EndsOrNoRoot L t (g a t)) :
    EndsOrNoRoot L s (if s.inp.isEmpty then .ok (.none, emitM m s) else (f s).bind g) := by
  cases hi : s.inp with
  | nil => exact ⟨[(s.pos, .marshal m)], rfl, Or.inl ⟨_, _, rfl⟩⟩
  | cons b rest =>
    obtain ⟨new, o, hr⟩ := hf
    have hn : NoRootAt L new := NoRootAt.of_roots hr (by rw [← hL, hi]; simp)
    simp only [List.isEmpty_cons, Bool.false_eq_true, if_false]
    cases hfs : f s with
    | error e => exact ⟨new, by rw [← o, hfs]; rfl, Or.inr hn⟩
    | ok at' =>
      obtain ⟨a, t⟩ := at'
      obtain ⟨new2, o2, h2⟩ := hg a t hfs
      rw [hfs] at o
      exact ⟨new ++ new2, by rw [← List.append_assoc, ← o]; exact o2, h2.imp id hn.append⟩

/-- the stream loop: either it returns, and then its last event is the only root `...` event stamped with the end of the input;
or it fails, and then there is no such event at all -/
theorem decodeStream_roots {okc : MEvent → Prop} {pk : Prim → Bool} (hpk : PrimLink true pk okc) (tb : MsgTables)
    (hs : tb.shapeOk pk = true) (hw : tb.wf = true) :
    ∀ (fuel : Nat) (s : St), ∃ new, (stOf (decodeStream true tb rootPath fuel s)).out = s.out ++ new ∧
      ((∃ v t, decodeStream true tb rootPath fuel s = .ok (v, t)) ∨ NoRootAt (s.pos + s.inp.length) new) := by
  suffices h : ∀ (L fuel : Nat) (s : St), s.pos + s.inp.length = L → EndsOrNoRoot L s (decodeStream true tb rootPath fuel s) from
    fun fuel s => h _ fuel s rfl
  intro L fuel
  induction fuel with
  | zero => intro s _; exact ⟨[], by simp [decodeStream, crash, stOf], Or.inr (fun ke hke => by cases hke)⟩
  | succ n ih =>
    intro s hL
    unfold decodeStream
    refine EndsOrNoRoot.phase hL (msg_roots (decodeCommand_gd true hpk tb hs rootPath s) (decodeCommand_acct tb rootPath s))
      fun cmd s1 hc => ?_
    obtain ⟨_, _, _, _, _, hi1, hp1, _, _⟩ := decodeCommand_sound tb hw rootPath s s1 cmd hc
    have hL1 : s1.pos + s1.inp.length = L := by rw [← hL, hp1, hi1]; simp; omega
    cases cmdEncrypt tb cmd with
    | error cls => exact ⟨[], by simp [crash, stOf], Or.inr (fun ke hke => by cases hke)⟩
    | ok enc =>
      refine EndsOrNoRoot.phase hL1 (msg_roots (decodeResponse_gd true hpk tb hs _ enc rootPath s1)
        (decodeResponse_acct tb _ enc rootPath s1)) fun rsp s2 hr => ih s2 ?_
      obtain ⟨_, _, _, _, _, hi2, hp2, _, _⟩ := decodeResponse_sound tb hw _ enc rootPath s1 s2 rsp hr
      rw [← hL1, hp2, hi2]; simp; omega

/-- **the pump ends a stream run silently only if the stream walker returned** -/
theorem silent_walker_ok {okc : MEvent → Prop} {pk : Prim → Bool} (hpk : PrimLink true pk okc) (tb : MsgTables)
    (hs : tb.shapeOk pk = true) (hw : tb.wf = true) (x : List Byte)
    (h : (marshalRun true tb .stream x).outcome = .silent) : ∃ v s', runWalker true tb .stream x = .ok (v, s') := by
  have hflag := (stream_silent_iff true tb x).mp h
  obtain ⟨new, o, hok | hno⟩ := decodeStream_roots hpk tb hs hw (x.length + 1) (initSt x)
  · exact hok
  · exfalso
    simp only [runWalker] at hflag
    rw [o] at hflag
    simp only [initSt, List.nil_append, List.any_eq_true, Bool.and_eq_true, beq_iff_eq] at hflag
    obtain ⟨ke, hke, hk, hroot⟩ := hflag
    have := hno ke hke hroot
    simp only [initSt, Nat.zero_add] at this
    omega
