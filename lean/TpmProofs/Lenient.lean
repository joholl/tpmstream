import TpmProofs.MsgSound
import TpmProofs.BE
import TpmModel.Relax
import TpmProofs.Trace
/-!
# Warn mode = the lenient field-by-field interpretation + one warning after each offending field (C08, value-only clause)

The *lenient interpretation* of an input under a layout is what strict decoding yields when every declared set is widened to
"any integer of that width" (`Ty.relax`: same structure, names, widths, signedness, selectors, counts — only the `valid` lists
change).  Theorem: whenever the lenient interpretation accepts an input (its sizes and counts are consistent), the warn-mode decode
under the real layout returns **the same object**, and its trace **with the value warnings erased is exactly the lenient
interpretation's trace** (same events, same stamps).  Together with `ValueWarn.lean` (each value warning stands directly behind its
offending field event, and each offending event has one) this is the clause "when the only problems are out-of-range field values
the events equal the lenient field-by-field interpretation with one warning directly after each offending event".

Proved as a simulation: `Q s s'` relates a warn-mode state `s` and a lenient-strict state `s'` (same input, position, regions;
`s'.out` = `s.out` without value warnings); `Sim r r'`: if the lenient run `r'` succeeds so does the warn-mode run `r`, with the
same value, in related states.
-/

theorem relax_valid (p : Prim) (bs : List Byte) (h : bs.length = p.size) : p.relax.isValid (p.relax.ofBytes bs) = true := by
  have hlt := fromBE_lt_size h
  simp only [Prim.isValid, Prim.relax, List.any_cons, List.any_nil, Bool.or_false, VItem.has, Bool.and_eq_true, decide_eq_true_eq,
    Prim.ofBytes, intOfBytes]
  split <;> constructor <;> omega

theorem Ty.relax_name : ∀ (t : Ty), t.relax.name = t.name
  | .prim _ => rfl
  | .struct _ _ _ => rfl
  | .tpm2bBytes _ _ _ _ _ => rfl
  | .tpm2b _ _ _ _ _ => rfl
  | .union _ _ => rfl
  | .bad _ => rfl

theorem Ty.relax_eventTag (t : Ty) : t.relax.eventTag = t.eventTag := by
  cases t <;> rfl

theorem Arms.relax_keys : ∀ (a : Arms), a.relax.keys = a.keys
  | .nil => rfl
  | .consNone an key rest => by simp [Arms.relax, Arms.keys, Arms.relax_keys rest]
  | .cons an key t rest => by simp [Arms.relax, Arms.keys, Arms.relax_keys rest]
  | .consBytes an key elem n rest => by simp [Arms.relax, Arms.keys, Arms.relax_keys rest]

def isVW : Event → Bool
  | .warning (.value _ _ _) => true
  | _ => false

def eraseVW (out : List (Nat × Event)) : List (Nat × Event) := out.filter fun ke => !isVW ke.2

structure Q (s s' : St) : Prop where
  inp : s'.inp = s.inp
  pos : s'.pos = s.pos
  scs : s'.scs = s.scs
  out : s'.out = eraseVW s.out

def Sim {α : Type} (r r' : R α) : Prop := ∀ v t', r' = .ok (v, t') → ∃ t, r = .ok (v, t) ∧ Q t t'

theorem Sim.bind {α β : Type} {r r' : R α} {f f' : α → St → R β} (h : Sim r r')
    (hf : ∀ a t t', Q t t' → Sim (f a t) (f' a t')) : Sim (r.bind f) (r'.bind f') := by
  intro v t' hr
  obtain ⟨a, u', h1, h2⟩ := bind_ok_inv hr
  obtain ⟨u, hu, hq⟩ := h a u' h1
  rw [hu]
  exact hf a u u' hq v t' h2

theorem Sim.ok {α : Type} {s s' : St} (a : α) (h : Q s s') : Sim (.ok (a, s) : R α) (.ok (a, s')) := by
  intro v t' hr
  simp only [Except.ok.injEq, Prod.mk.injEq] at hr
  obtain ⟨rfl, rfl⟩ := hr
  exact ⟨s, rfl, h⟩

theorem Sim.fail {α : Type} {r : R α} {e : Err × St} : Sim r (.error e) := by
  intro v t' hr; cases hr

theorem Q.em {s s' : St} (h : Q s s') (e : MEvent) : Q (_root_.emitM e s) (_root_.emitM e s') := by
  refine ⟨h.inp, h.pos, h.scs, ?_⟩
  simp only [_root_.emitM, emit, eraseVW, List.filter_append, isVW]
  rw [show s'.out = eraseVW s.out from h.out, h.pos]
  simp [eraseVW, isVW]

theorem Q.withScs {s s' : St} (h : Q s s') (scs : List SC) : Q { s with scs := scs } { s' with scs := scs } :=
  ⟨h.inp, h.pos, rfl, h.out⟩

theorem Q.vw {s s' : St} (h : Q s s') (path : Path) (ty : String) (x : Int) : Q (emitW (.value path ty x) s) s' :=
  ⟨h.inp, h.pos, h.scs, by rw [h.out]; simp [emitW, emit, eraseVW, isVW]⟩

/-- either `except`: when the guarded step succeeds on the lenient side, both sides simply go on -/
theorem Sim.caught {r r' q : R Val} {k k' : Val → St → R Val} (hr : Sim r r') (hk : ∀ v t t', Q t t' → Sim (k v t) (k' v t'))
    (hq : Caught false r k q) : Sim q (r'.bind k') := by
  intro v t' h
  obtain ⟨a, u', h1, h2⟩ := bind_ok_inv h
  obtain ⟨u, rfl, hu⟩ := hr a u' h1
  cases hq with
  | ok e => cases e; exact hk a u u' hu v t' h2
  | pass e => cases e
  | warn _ _ e => cases e

/-- a step that looks only at input, position and regions and leaves the trace alone behaves the same on related states -/
theorem take_sim {s s' : St} (h : Q s s') (n : Nat) : Sim (take n s) (take n s') := by
  unfold take
  rw [h.inp, h.pos]
  split
  · exact Sim.fail
  · exact Sim.ok _ ⟨rfl, rfl, h.scs, h.out⟩

theorem consume_sim {s s' : St} (h : Q s s') (n : Nat) : Sim (consume n s) (consume n s') := by
  unfold consume
  exact (take_sim h n).bind fun _ t t' hq => Sim.ok _ hq

theorem bpGo_sim (path : Path) (size : Nat) (todo done : List SC) {s s' : St} (h : Q s s') :
    Sim (bpGo path size done todo s) (bpGo path size done todo s') := by
  rcases bpGo_cases path size todo done with e | ⟨_, _, _, _, _, e⟩ <;> rw [e, e]
  · exact Sim.ok _ (h.withScs _)
  · exact (consume_sim (h.withScs _) _).bind fun _ _ _ _ => Sim.fail

theorem bytesParsed_sim {s s' : St} (h : Q s s') (path : Path) (size : Nat) : Sim (bytesParsed path size s) (bytesParsed path size s') := by
  unfold bytesParsed
  rw [h.scs]
  exact bpGo_sim path size s.scs [] h

theorem readPrim_sim {s s' : St} (h : Q s s') (p : Prim) (path : Path) : Sim (readPrim false p path s) (readPrim true p.relax path s') := by
  unfold readPrim
  refine (bytesParsed_sim h path p.size).bind fun _ u u' hq1 => ?_
  intro v t' hr
  obtain ⟨bs, w', ht, hr⟩ := bind_ok_inv hr
  obtain ⟨w, hw, hq2⟩ := take_sim hq1 p.size bs w' ht
  rw [hw, R.bind_ok]
  -- every value of the right width is in the widened set
  simp only [relax_valid p bs (take_ok_inv ht).1, if_true, Except.ok.injEq, Prod.mk.injEq] at hr
  obtain ⟨rfl, rfl⟩ := hr
  have hq3 := hq2.em ⟨path, .named p.name false, some (p.ofBytes bs), p.name, p.size⟩
  simp only [Bool.false_eq_true, if_false]
  split
  · exact ⟨_, rfl, hq3⟩
  · exact ⟨_, rfl, hq3.vw ..⟩

theorem anticipateM_sim {s s' : St} (h : Q s s') (vpath : Path) (v id : Nat) :
    Sim (anticipateM false vpath v id s) (anticipateM true vpath v id s') := by
  unfold anticipateM
  rw [h.scs]
  split
  · exact Sim.ok _ h
  · exact Sim.fail

theorem openRegion_sim {s s' : St} (h : Q s s') (id : Nat) (cpath : Path) (n : Nat) :
    Sim (openRegion false id cpath n s) (openRegion true id cpath n s') := by
  unfold openRegion
  refine (anticipateM_sim h cpath n id).bind fun _ t t' hq => ?_
  have := hq.withScs (t.scs ++ [⟨id, cpath, 0, some n⟩])
  rw [hq.scs]
  exact Sim.ok _ this

theorem setListed_sim {s s' : St} (h : Q s s') (id : Nat) (cpath : Path) (n : Nat) :
    Sim (setListed false id cpath n s) (setListed true id cpath n s') := by
  unfold setListed
  simp only []
  rw [h.scs]
  exact anticipateM_sim (h.withScs _) cpath n id

theorem assertDoneSC_sim {s s' : St} (h : Q s s') (c : SC) : Sim (assertDoneSC false c s) (assertDoneSC true c s') := by
  unfold assertDoneSC
  cases c.max with
  | none => exact Sim.fail
  | some m =>
    simp only []
    split
    · exact Sim.ok _ h
    · exact Sim.fail

theorem assertDone_sim {s s' : St} (h : Q s s') (id : Nat) : Sim (assertDone false id s) (assertDone true id s') := by
  unfold assertDone
  rw [h.scs]
  split
  · exact Sim.fail
  · exact assertDoneSC_sim (h.withScs _) _

theorem repeatDec_sim (f f' : Path → St → R Val) (hf : ∀ p s s', Q s s' → Sim (f p s) (f' p s')) (path : Path) :
    ∀ (n i : Nat) (s s' : St), Q s s' → Sim (repeatDec f path n i s) (repeatDec f' path n i s')
  | 0, _, _, _, h => Sim.ok _ h
  | n + 1, i, s, s', h => (hf _ s s' h).bind fun _ t t' hq =>
      (repeatDec_sim f f' hf path n (i + 1) t t' hq).bind fun _ _ _ hq2 => Sim.ok _ hq2

theorem readPrimList_sim {s s' : St} (h : Q s s') (p : Prim) (path : Path) (n : Nat) :
    Sim (readPrimList false p path n s) (readPrimList true p.relax path n s') := by
  unfold readPrimList
  exact (repeatDec_sim _ _ (fun q s s' hq => readPrim_sim hq p q) path n 0 _ _ (h.em _)).bind fun vs t t' hq => Sim.ok _ hq

theorem readListArm_sim {s s' : St} (h : Q s s') (elem : Prim) (n : Option Nat) (path : Path) :
    Sim (readListArm false elem n path s) (readListArm true elem.relax n path s') := by
  unfold readListArm
  cases n with
  | none => exact Sim.fail
  | some k => exact readPrimList_sim h elem path k

theorem fieldWith_sim (d d' : Path → Option Int → St → R Val) (hd : ∀ p sel s s', Q s s' → Sim (d p sel s) (d' p sel s'))
    (tname : String) (kind : FKind) (fpath : Path) (vals : List (String × Val)) {s s' : St} (h : Q s s') :
    Sim (decodeFieldWith d tname kind fpath vals s) (decodeFieldWith d' tname kind fpath vals s') := by
  cases kind with
  | plain => exact hd _ _ _ _ h
  | selected sel =>
    simp only [decodeFieldWith]
    split
    · exact Sim.fail
    · exact hd _ _ _ _ h
  | counted =>
    simp only [decodeFieldWith]
    split
    · exact Sim.fail
    · exact (repeatDec_sim _ _ (fun p s s' hq => hd p none s s' hq) fpath _ 0 _ _ (h.em _)).bind fun vs t t' hq => Sim.ok _ hq

mutual
theorem decode_sim : (t : Ty) → ∀ (path : Path) (sel : Option Int) (s s' : St), Q s s' →
    Sim (decode false t path sel s) (decode true t.relax path sel s')
  | .prim p, path, sel, s, s', h => by simp only [decode, Ty.relax]; exact readPrim_sim h p path
  | .struct name isP fs, path, sel, s, s', h => by
    simp only [decode, Ty.relax]
    exact (fields_sim fs path [] _ _ (h.em _)).bind fun vals t t' hq => Sim.ok _ hq
  | .tpm2bBytes name szName szP bufName elem, path, sel, s, s', h => by
    simp only [decode, Ty.relax]
    refine (readPrim_sim (h.em _) szP _).bind fun nv s1 s1' hq1 => ?_
    rw [hq1.pos]
    split
    · exact Sim.fail
    · exact (openRegion_sim hq1 _ _ _).bind fun _ s2 s2' hq2 => (readPrimList_sim hq2 elem _ _).bind fun bv s3 s3' hq3 =>
        (assertDone_sim hq3 _).bind fun _ s4 s4' hq4 => Sim.ok _ hq4
  | .tpm2b name szName szP bufName body, path, sel, s, s', h => by
    simp only [decode, Ty.relax, ownCatch_true]
    refine (readPrim_sim (h.em _) szP _).bind fun nv s1 s1' hq1 => ?_
    rw [hq1.pos]
    split
    · exact Sim.fail
    · refine (openRegion_sim hq1 _ _ _).bind fun _ s2 s2' hq2 => ?_
      split
      · rw [Ty.relax_eventTag]
        exact (assertDone_sim (hq2.em _) _).bind fun _ s4 s4' hq4 => Sim.ok _ hq4
      · exact (decode_sim body _ none s2 s2' hq2).caught
          (fun _ s3 s3' hq3 => (assertDone_sim hq3 _).bind fun _ s4 s4' hq4 => Sim.ok _ hq4) (ownCatch_caught ..)
  | .union name arms, path, sel, s, s', h => by
    simp only [decode, Ty.relax, Arms.relax_keys]
    split
    · split <;> exact Sim.fail
    · exact arm_sim arms name _ path _ _ (h.em _)
  | .bad r, path, sel, s, s', h => by simp only [decode, Ty.relax]; exact Sim.fail

theorem arm_sim : (arms : Arms) → ∀ (un want : String) (path : Path) (s s' : St), Q s s' →
    Sim (decodeArm false arms un want path s) (decodeArm true arms.relax un want path s')
  | .nil, un, want, path, s, s', h => by simp only [decodeArm, Arms.relax]; exact Sim.fail
  | .consNone an key rest, un, want, path, s, s', h => by
    simp only [decodeArm, Arms.relax]
    split
    · exact Sim.ok _ h
    · exact arm_sim rest un want path s s' h
  | .cons an key t rest, un, want, path, s, s', h => by
    simp only [decodeArm, Arms.relax]
    split
    · exact (decode_sim t _ none s s' h).bind fun v u u' hq => Sim.ok _ hq
    · exact arm_sim rest un want path s s' h
  | .consBytes an key elem n rest, un, want, path, s, s', h => by
    simp only [decodeArm, Arms.relax]
    split
    · exact (readListArm_sim h elem n _).bind fun v u u' hq => Sim.ok _ hq
    · exact arm_sim rest un want path s s' h

theorem fields_sim : (fs : Fields) → ∀ (path : Path) (vals : List (String × Val)) (s s' : St), Q s s' →
    Sim (decodeFields false fs path vals s) (decodeFields true fs.relax path vals s')
  | .nil, path, vals, s, s', h => by simp only [decodeFields, Fields.relax]; exact Sim.ok _ h
  | .cons fname kind t rest, path, vals, s, s', h => by
    simp only [decodeFields, Fields.relax, Ty.relax_name]
    exact (fieldWith_sim _ _ (fun p sel s s' hq => decode_sim t p sel s s' hq) t.name kind _ vals h).bind fun v u u' hq =>
      fields_sim rest path _ u u' hq
end

theorem lookupTy_relax (m : List (Int × Ty)) (k : Int) : lookupTy (relaxMap m) k = (lookupTy m k).map Ty.relax := by
  unfold lookupTy relaxMap
  induction m with
  | nil => rfl
  | cons kt rest ih =>
    simp only [List.map_cons, List.find?_cons]
    split
    · rfl
    · exact ih

theorem dropSelectors_relax : ∀ (fs : Fields), fs.relax.dropSelectors = fs.dropSelectors.relax
  | .nil => rfl
  | .cons f kind t rest => by
    cases kind <;> simp [Fields.relax, Fields.dropSelectors, dropSelectors_relax rest]

theorem encVariant_relax (encParam t : Ty) :
    encVariant encParam.relax t.relax = (encVariant encParam t).map fun nf => (nf.1, nf.2.relax) := by
  cases t with
  | struct n p fields =>
    cases fields with
    | nil => rfl
    | cons f kind ft rest =>
      simp only [Ty.relax, Fields.relax, encVariant, Ty.relax_name]
      split
      · simp [Fields.relax, dropSelectors_relax]
      · rfl
  | _ => rfl

theorem Ty.relax_isParams (t : Ty) : t.relax.isParams = t.isParams := by cases t <;> rfl

theorem decodeArea_sim (tb : MsgTables) (enc : Bool) (t : Ty) (path : Path) {s s' : St} (h : Q s s') :
    Sim (decodeArea false tb enc t path s) (decodeArea true tb.relax enc t.relax path s') := by
  unfold decodeArea
  rw [Ty.relax_isParams, show tb.relax.encParam = tb.encParam.relax from rfl, encVariant_relax]
  split
  · cases henc : encVariant tb.encParam t with
    | none => simp only [Option.map_none]; exact decode_sim t path none s s' h
    | some nf =>
      obtain ⟨name, fs⟩ := nf
      simp only [Option.map_some]
      exact (fields_sim fs path [] _ _ (h.em _)).bind fun vals u u' hq => Sim.ok _ hq
  · exact decode_sim t path none s s' h

theorem sizedLoop_sim (t : Ty) (path : Path) (cid : Nat) : ∀ (fuel i : Nat) (acc : List Val) (s s' : St), Q s s' →
    Sim (sizedLoop false t path cid fuel i acc s) (sizedLoop true t.relax path cid fuel i acc s')
  | 0, _, _, _, _, _ => Sim.fail
  | fuel + 1, i, acc, s, s', h => by
    unfold sizedLoop
    rw [h.scs]
    split
    · exact Sim.fail
    · split
      · exact Sim.fail
      · split
        · rw [ownCatch_true]
          exact (decode_sim t _ none s s' h).caught (fun ev s1 s1' hq1 => sizedLoop_sim t path cid fuel (i+1) (acc ++ [ev]) s1 s1' hq1)
            (ownCatch_caught ..)
        · exact (assertDoneSC_sim (h.withScs _) _).bind fun _ u u' hq => Sim.ok _ hq

theorem decodeSized_sim (t : Ty) (path : Path) (cid : Nat) {s s' : St} (h : Q s s') :
    Sim (decodeSized false t path cid s) (decodeSized true t.relax path cid s') := by
  unfold decodeSized
  simp only [Ty.relax_name]
  have hq := h.em ⟨path, .listOf t.name, none, "", 0⟩
  rw [hq.scs]
  exact sizedLoop_sim t path cid _ 0 [] _ _ hq

theorem msgCatch_sim {id1 id2 : Nat} {name : String} {vals : List (String × Val)} {r r' : R Val} {k k' : Val → St → R Val}
    (hr : Sim r r') (hk : ∀ v t t', Q t t' → Sim (k v t) (k' v t')) :
    Sim (msgCatch false id1 id2 name vals r k) (msgCatch true id1 id2 name vals r' k') := by
  rw [msgCatch_true]; exact hr.caught hk (msgCatch_caught ..)

theorem findP_relax : ∀ (fs : Fields), sessionFlag.findP fs.relax = (sessionFlag.findP fs).map Prim.relax
  | .nil => rfl
  | .cons f kind ft rest => by
    cases ft with
    | prim q =>
      simp only [Fields.relax, Ty.relax, sessionFlag.findP]
      split
      · rfl
      · exact findP_relax rest
    | _ => simp only [Fields.relax, Ty.relax, sessionFlag.findP]; exact findP_relax rest

theorem sessionFlag_relax (t : Ty) (flag : String) (v : Val) : sessionFlag t.relax flag v = sessionFlag t flag v := by
  cases t with
  | struct n p sfs =>
    have hfind := findP_relax
    simp only [Ty.relax, sessionFlag, hfind]
    cases v with
    | obj a b fs =>
      simp only []
      cases lookupVal fs "sessionAttributes" with
      | none => rfl
      | some w =>
        cases w with
        | int c x =>
          simp only []
          cases sessionFlag.findP sfs with
          | none => rfl
          | some q => rfl
        | _ => rfl
    | _ => rfl
  | _ => cases v <;> rfl

theorem anyFlag_relax (t : Ty) (flag : String) : ∀ (vs : List Val), anyFlag t.relax flag vs = anyFlag t flag vs
  | [] => rfl
  | v :: rest => by simp only [anyFlag, sessionFlag_relax, anyFlag_relax t flag rest]

theorem areaFlag_relax (t : Ty) (flag : String) (area : Val) : areaFlag t.relax flag area = areaFlag t flag area := by
  cases area <;> simp only [areaFlag, anyFlag_relax]

theorem cmdEncrypt_relax (tb : MsgTables) (cmd : Val) : cmdEncrypt tb.relax cmd = cmdEncrypt tb cmd := by
  unfold cmdEncrypt
  cases objField cmd "authorizationArea" with
  | none => rfl
  | some a => cases a <;> simp only [show tb.relax.authCmd = tb.authCmd.relax from rfl, areaFlag_relax]

theorem Test.eval_relax (tb : MsgTables) : ∀ t : Test, t.eval tb = t.eval tb.relax
  | .sessions _ | .failed _ | .lit _ => rfl
  | .not t => by simp only [Test.eval, Test.eval_relax tb t]

theorem Check.verdict_relax (tb : MsgTables) {α : Type} (q : Check α) (e : Bool) : q.verdict tb.relax e = q.verdict tb e := by
  cases q <;> simp only [Check.verdict, show tb.relax.authRsp = tb.authRsp.relax from rfl,
    show tb.relax.authCmd = tb.authCmd.relax from rfl, areaFlag_relax]

theorem Layouts.get_relax (tb : MsgTables) (w : Layouts) (key : Option Int) :
    key.bind (lookupTy (w.get tb.relax)) = (key.bind (lookupTy (w.get tb))).map Ty.relax := by
  cases key with
  | none => rfl
  | some k => cases w <;> exact lookupTy_relax _ k

theorem sim_runRel (tb : MsgTables) (path : Path) (own : Nat) (name : String) :
    RunRel ⟨false, tb, path, own, name⟩ ⟨true, tb.relax, path, own, name⟩
      fun f f' => ∀ s s', Q s s' → Sim (f s) (f' s') where
  eval := Test.eval_relax tb
  pure a _ _ h := Sim.ok a h
  bind hf hg s s' h := (hf s s' h).bind fun a t t' q => hg a t t' q
  attempt _ _ _ _ _ hf hk s s' h := msgCatch_sim (hf s s' h) fun v t t' q => hk v t t' q
  check q s s' h := by
    simp only [Check.run, Check.verdict_relax, h.scs]
    split
    · exact Sim.ok _ h
    · exact Sim.fail
  leaf l s s' h := by
    cases l <;> simp only [Leaf.run, Layouts.get_relax]
    case start => exact Sim.ok _ ((h.withScs _).em _)
    case field f => cases f <;> exact readPrim_sim h _ _
    case setOwn => exact setListed_sim h _ _ _
    case openInner => exact openRegion_sim h _ _ _
    case area w key enc nm =>
      cases key.bind (lookupTy (w.get tb)) with
      | none => exact Sim.fail
      | some t => exact decodeArea_sim tb enc t _ h
    case sessions rsp => cases rsp <;> exact decodeSized_sim _ _ _ h
    case done => exact assertDone_sim h _

theorem decodeCommand_sim (tb : MsgTables) (path : Path) {s0 s0' : St} (h : Q s0 s0') :
    Sim (decodeCommand false tb path s0) (decodeCommand true tb.relax path s0') := by
  rw [decodeCommand_eq_run, decodeCommand_eq_run, h.pos]; exact Prog.run_rel (sim_runRel ..) _ s0 s0' h

theorem decodeResponse_sim (tb : MsgTables) (cc : Option Int) (enc : Bool) (path : Path) {s0 s0' : St} (h : Q s0 s0') :
    Sim (decodeResponse false tb cc enc path s0) (decodeResponse true tb.relax cc enc path s0') := by
  rw [decodeResponse_eq_run, decodeResponse_eq_run, h.pos]; exact Prog.run_rel (sim_runRel ..) _ s0 s0' h

theorem decodeStream_sim (tb : MsgTables) (path : Path) : ∀ (fuel : Nat) (s s' : St), Q s s' →
    Sim (decodeStream false tb path fuel s) (decodeStream true tb.relax path fuel s') :=
  (sim_runRel tb path 0 "").stream (cmdEncrypt_relax tb)
    (fun _ _ _ hf s s' h => by
      simp only [h.inp]
      split
      · exact Sim.ok _ (h.em _)
      · exact hf s s' h)
    (fun _ _ h => decodeCommand_sim tb path h) (fun cc enc _ _ h => decodeResponse_sim tb cc enc path h)

/-- **warn mode vs the lenient interpretation** (any tables, every layout, commands, responses, streams, EVERY input): whenever
strict decoding under the relaxed tables accepts the input, warn-mode decoding under the real tables returns the same object,
consumes the same input, and its trace with the value warnings erased is exactly the lenient trace -/
theorem runWalker_sim (tb : MsgTables) (top : Top) (x : List Byte) (v : Val) (t' : St)
    (h : runWalker true tb.relax top.relax x = .ok (v, t')) :
    ∃ t, runWalker false tb top x = .ok (v, t) ∧ t'.out = eraseVW t.out ∧ t'.inp = t.inp ∧ t'.pos = t.pos := by
  have hq : Q (initSt x) (initSt x) := ⟨rfl, rfl, rfl, rfl⟩
  have hs : Sim (runWalker false tb top x) (runWalker true tb.relax top.relax x) := by
    unfold runWalker
    cases top with
    | ty t => exact decode_sim t rootPath none _ _ hq
    | command => exact decodeCommand_sim tb rootPath hq
    | response cc enc => exact decodeResponse_sim tb cc enc rootPath hq
    | stream => exact decodeStream_sim tb rootPath _ _ _ hq
  obtain ⟨t, ht, q⟩ := hs v t' h
  exact ⟨t, ht, q.out, q.inp, q.pos⟩
